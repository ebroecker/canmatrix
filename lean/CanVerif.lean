import CanVerif.Model.ArbId
import CanVerif.Model.Bulk
import CanVerif.Model.Codec
import CanVerif.Model.Compare
import CanVerif.Model.Convert
import CanVerif.Model.Copy
import CanVerif.Model.DbcAttr
import CanVerif.Model.DbcComment
import CanVerif.Model.DbcFile
import CanVerif.Model.DbcLines
import CanVerif.Model.DbcPost
import CanVerif.Model.DbcPrep
import CanVerif.Model.DbcStart
import CanVerif.Model.DbcStmt
import CanVerif.Model.DbcTables
import CanVerif.Model.DbcText
import CanVerif.Model.Dec
import CanVerif.Model.EcuOps
import CanVerif.Model.Export
import CanVerif.Model.Exports
import CanVerif.Model.Fields
import CanVerif.Model.Glob
import CanVerif.Model.Layout
import CanVerif.Model.Lookup
import CanVerif.Model.Mux
import CanVerif.Model.Num
import CanVerif.Model.StartBit
import CanVerif.Spec.Bits
import CanVerif.Spec.Bulk
import CanVerif.Spec.Codec
import CanVerif.Spec.CompareSpec
import CanVerif.Spec.ConvertSpec
import CanVerif.Spec.CopySpec
import CanVerif.Spec.DbcRT
import CanVerif.Spec.EcuRefs
import CanVerif.Spec.Exports
import CanVerif.Spec.J1939
import CanVerif.Spec.Layout
import CanVerif.Spec.Lookup
import CanVerif.Spec.Mux
import CanVerif.Spec.Scaling
import CanVerif.Proofs.ArbId
import CanVerif.Proofs.Bits
import CanVerif.Proofs.Bulk
import CanVerif.Proofs.Codec
import CanVerif.Proofs.Compare
import CanVerif.Proofs.Compress
import CanVerif.Proofs.Convert
import CanVerif.Proofs.ConvertSelect
import CanVerif.Proofs.Copy
import CanVerif.Proofs.DbcAttr
import CanVerif.Proofs.DbcComment
import CanVerif.Proofs.DbcDict
import CanVerif.Proofs.DbcExamples
import CanVerif.Proofs.DbcFile
import CanVerif.Proofs.DbcFileExamples
import CanVerif.Proofs.DbcLex
import CanVerif.Proofs.DbcLines
import CanVerif.Proofs.DbcMatrix
import CanVerif.Proofs.DbcPost
import CanVerif.Proofs.DbcRoundtrip
import CanVerif.Proofs.DbcStatements
import CanVerif.Proofs.DbcStmt
import CanVerif.Proofs.DbcTables
import CanVerif.Proofs.DbcTablesRT
import CanVerif.Proofs.DbcText
import CanVerif.Proofs.DbcTok
import CanVerif.Proofs.DbcVal
import CanVerif.Proofs.DbcWhole
import CanVerif.Proofs.Dec
import CanVerif.Proofs.Dict
import CanVerif.Proofs.EcuOps
import CanVerif.Proofs.Encode
import CanVerif.Proofs.Exports
import CanVerif.Proofs.FirstMatch
import CanVerif.Proofs.Layout
import CanVerif.Proofs.Lookup
import CanVerif.Proofs.LookupIndep
import CanVerif.Proofs.Mux
import CanVerif.Proofs.Num
import CanVerif.Proofs.StrLit
import CanVerif.Props.C01
import CanVerif.Props.C02
import CanVerif.Props.C03
import CanVerif.Props.C04
import CanVerif.Props.C05
import CanVerif.Props.C05b
import CanVerif.Props.C05c
import CanVerif.Props.C05d
import CanVerif.Props.C05e
import CanVerif.Props.C05f
import CanVerif.Props.C05g
import CanVerif.Props.C05h
import CanVerif.Props.C05i
import CanVerif.Props.C05j
import CanVerif.Props.C05k
import CanVerif.Props.C05l
import CanVerif.Props.C05m
import CanVerif.Props.C05n
import CanVerif.Props.C05o
import CanVerif.Props.C05p
import CanVerif.Props.C05q
import CanVerif.Props.C05r
import CanVerif.Props.C06
import CanVerif.Props.C06b
import CanVerif.Props.C07
import CanVerif.Props.C08
import CanVerif.Props.C09
import CanVerif.Props.C10
import CanVerif.Props.C10b
import CanVerif.Props.C11
import CanVerif.Props.C12
import CanVerif.Props.C13
import CanVerif.Props.C14
import CanVerif.Props.C15
import CanVerif.Props.C16
import CanVerif.Props.C16L
import CanVerif.Props.C17
import CanVerif.Props.C18
import CanVerif.Props.C18s
import CanVerif.Props.C19
import CanVerif.Props.C20
import CanVerif.Props.Num
