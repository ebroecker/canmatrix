import CanVerif.Model.Compare
import CanVerif.Spec.CompareSpec
/-!
Every comparison function of Model/Compare.lean builds an "equal" node over a list of children, and the list is a
concatenation of a few kinds of fragment (a leaf under a condition, a leaf per missing element, a subtree per element
found in the other operand).  The fragment lemmas say for each kind when it satisfies a predicate; the `_ok` and `_typed`
lemmas are rewriting with these.
-/
namespace CanVerif
open SpecCompare

theorem reportsNothingList_eq_all (l : List Res) : reportsNothingList l = l.all reportsNothing := by
  induction l with
  | nil => rfl
  | cons c rest ih => rw [reportsNothingList, ih, List.all_cons]

theorem reportsNothing_node (r t : Option String) (cs : List Res) :
    reportsNothing (.node r t cs) = ((t.isNone || r == some "equal") && cs.all reportsNothing) := by
  rw [reportsNothing, reportsNothingList_eq_all]

theorem reportsNothing_equal (t : String) (cs : List Res) :
    reportsNothing (.node (some "equal") (some t) cs) = cs.all reportsNothing := by
  rw [reportsNothing_node]; rfl

theorem reportsNothing_leaf_ne (r t : String) (h : r ≠ "equal") : reportsNothing (leaf r t) = false := by
  simp [leaf, reportsNothing_node, h]

/-! `p` is `reportsNothing` in the `_ok` lemmas and `typedAll` in the `_typed` ones. -/

section fragments
variable (p : Res → Bool)

theorem all_ite_bne {α : Type} [BEq α] (x y : α) (c : Res) : (if x != y then [c] else []).all p = (x == y || p c) := by
  cases h : x == y <;> simp [bne, h]

theorem all_ite_nil_else (c : Bool) (L : List Res) : (if c then [] else L).all p = (c || L.all p) := by
  cases c <;> rfl

theorem all_filterMap_option {α β : Type} (l : List α) (f : α → Option β) (q : β → Bool) :
    (l.filterMap f).all q = l.all fun x => (f x).all q := by
  rw [List.all_filterMap]
  exact List.all_congr rfl fun x => by cases f x <;> rfl

theorem all_ite_some (c : Bool) (x : Res) : (if c then some x else none).all p = (!c || p x) := by
  cases c <;> rfl

theorem all_ite_none (c : Bool) (x : Res) : (if c then none else some x).all p = (c || p x) := by
  cases c <;> rfl

end fragments

theorem find?_self_of_nodup {α κ : Type} [BEq κ] [LawfulBEq κ] (f : α → κ) (l : List α)
    (h : (l.map f).Nodup) (x : α) (hx : x ∈ l) : l.find? (fun y => f y == f x) = some x := by
  induction l with
  | nil => cases hx
  | cons y l ih =>
    rw [List.map_cons, List.nodup_cons] at h
    rw [List.find?_cons]
    rcases List.mem_cons.1 hx with rfl | hx'
    · rw [BEq.rfl]
    · rw [beq_false_of_ne fun (hy : f y = f x) => h.1 (hy ▸ List.mem_map.2 ⟨x, hx', rfl⟩), ih h.2 hx']

theorem lookup_eq_some_iff {κ β : Type} [BEq κ] [LawfulBEq κ] (l : List (κ × β))
    (h : (l.map (·.1)).Nodup) (k : κ) (v : β) :
    (l.find? (·.1 == k)).map (·.2) = some v ↔ (k, v) ∈ l := by
  constructor
  · intro hl
    obtain ⟨p, hp, rfl⟩ := Option.map_eq_some_iff.1 hl
    have hk := List.find?_some hp
    exact eq_of_beq hk ▸ List.mem_of_find?_eq_some hp
  · intro hm
    rw [find?_self_of_nodup (·.1) l h (k, v) hm]
    rfl

theorem any_pair_iff {κ β : Type} [BEq κ] [LawfulBEq κ] [BEq β] [LawfulBEq β] (l : List (κ × β)) (k : κ) (v : β) :
    (l.any fun kw => kw.1 == k && kw.2 == v) = true ↔ (k, v) ∈ l := by
  simp only [List.any_eq_true, Bool.and_eq_true, beq_iff_eq]
  constructor
  · rintro ⟨⟨a, b⟩, hm, rfl, rfl⟩; exact hm
  · intro h; exact ⟨_, h, rfl, rfl⟩

theorem lookup_isSome {κ β : Type} [BEq κ] (l : List (κ × β)) (k : κ) :
    ((l.find? (·.1 == k)).map (·.2)).isSome = l.any (·.1 == k) := by
  rw [Option.isSome_map, List.isSome_find?]

variable {κ β : Type} [BEq κ] [LawfulBEq κ] [BEq β] [LawfulBEq β]

theorem any_pair_eq_lookup (l : List (κ × β)) (h : (l.map (·.1)).Nodup) (k : κ) (v : β) :
    (l.any fun kw => kw.1 == k && kw.2 == v) = (some v == (l.find? (·.1 == k)).map (·.2)) := by
  rw [Bool.eq_iff_iff, any_pair_iff, beq_iff_eq, eq_comm, lookup_eq_some_iff l h]

/-- The one statement about reports on dictionaries; `entry kv` is whether the fragment for the entry `kv` of `a` reports nothing. -/
theorem dict_report (a b : List (κ × β)) (hb : (b.map (·.1)).Nodup) (entry : κ × β → Bool) (r : String) (g : κ × β → String)
    (hr : r ≠ "equal") (he : ∀ kv, entry kv = (some kv.2 == (b.find? (·.1 == kv.1)).map (·.2))) :
    (a.all entry &&
      (b.filterMap fun kv => if ((a.find? (·.1 == kv.1)).map (·.2)).isNone then some (leaf r (g kv)) else none).all reportsNothing) =
    ((a.all fun kv => b.any fun kw => kw.1 == kv.1 && kw.2 == kv.2) && (b.all fun kv => a.any fun kw => kw.1 == kv.1)) := by
  simp only [all_filterMap_option, all_ite_some, reportsNothing_leaf_ne _ _ hr, Bool.or_false, Option.not_isNone, lookup_isSome,
    any_pair_eq_lookup b hb, ← he]

theorem compareAttributes_ok (a1 a2 : KV) (h2 : (a2.map (·.1)).Nodup) :
    reportsNothing (compareAttributes a1 a2) = sameDict a1 a2 := by
  rw [compareAttributes, reportsNothing_equal, List.all_append, all_filterMap_option]
  refine dict_report a1 a2 h2 _ _ _ (by decide) fun kv => ?_
  show Option.all _ (match (a2.find? (·.1 == kv.1)).map (·.2) with | none => _ | some v => _) = _
  cases (a2.find? (·.1 == kv.1)).map (·.2) with
  | none => exact reportsNothing_leaf_ne "deleted" kv.1 (by decide)
  | some v => rw [all_ite_some, reportsNothing_leaf_ne _ _ (by decide), Bool.or_false, bne, Bool.not_not]; rfl

theorem compareValueTable_ok (a1 a2 : List (Int × String)) (h2 : (a2.map (·.1)).Nodup) :
    reportsNothing (compareValueTable a1 a2) = sameTable a1 a2 := by
  rw [compareValueTable, reportsNothing_equal, List.all_append, all_filterMap_option]
  refine dict_report a1 a2 h2 _ _ _ (by decide) fun kv => ?_
  show Option.all _ (match (a2.find? (·.1 == kv.1)).map (·.2) with | none => _ | some v => _) = _
  cases (a2.find? (·.1 == kv.1)).map (·.2) with
  | none => exact reportsNothing_leaf_ne "removed" ("Value " ++ toString kv.1) (by decide)
  | some v => rw [all_ite_some, reportsNothing_leaf_ne _ _ (by decide), Bool.or_false, bne, Bool.not_not]; rfl

theorem compareDefineList_ok (t : String) (a1 a2 : List (String × QDef)) (h2 : (a2.map (·.1)).Nodup) :
    reportsNothing (compareDefineList t a1 a2) = sameDefs a1 a2 := by
  rw [compareDefineList, reportsNothing_equal, List.all_append, List.all_flatMap]
  refine dict_report a1 a2 h2 _ _ _ (by decide) fun kv => ?_
  show List.all (match (a2.find? (·.1 == kv.1)).map (·.2) with | none => _ | some v => _) _ = _
  cases (a2.find? (·.1 == kv.1)).map (·.2) with
  | none => exact (Bool.and_true _).trans (reportsNothing_leaf_ne "deleted" ("Define" ++ kv.1) (by decide))
  | some e =>
    obtain ⟨k, d, f⟩ := kv
    obtain ⟨d', f'⟩ := e
    simp only [List.all_append, all_ite_bne, reportsNothing_leaf_ne, Bool.or_false, ne_eq, String.reduceEq, not_false_eq_true,
      Option.some_beq_some]
    rw [Bool.eq_iff_iff]; simp

theorem compareSignalGroup_ok (g h : QGroup) : reportsNothing (compareSignalGroup g h) = groupAgree g h := by
  simp only [compareSignalGroup, reportsNothing_equal, groupAgree, sameSet, List.all_append, all_ite_bne, all_filterMap_option,
    all_ite_none, reportsNothing_leaf_ne, Bool.or_false, ne_eq, String.reduceEq, not_false_eq_true, Bool.and_assoc]

theorem compareSignal_ok (ign : Ign) (s t : QSig) (ha : (t.attrs.map (·.1)).Nodup) (hv : (t.values.map (·.1)).Nodup) :
    reportsNothing (compareSignal ign s t) = sigAgree ign s t := by
  simp only [compareSignal, reportsNothing_equal, sigAgree, sameSet, List.all_append, all_ite_bne, all_filterMap_option,
    all_ite_none, reportsNothing_leaf_ne, Bool.or_false, all_ite_nil_else, List.all_cons, List.all_nil, Bool.and_true,
    compareAttributes_ok _ _ ha, compareValueTable_ok _ _ hv, ne_eq, String.reduceEq, not_false_eq_true, Bool.and_assoc]
  -- what is left is the comment: the two `match`es agree case by case
  cases s.comment with
  | none => rfl
  | some c1 =>
    cases t.comment with
    | none => rfl
    | some c2 => rw [all_ite_bne, reportsNothing_leaf_ne _ _ (by decide), Bool.or_false]

theorem compareEcu_ok (ign : Ign) (e1 e2 : QEcu) (h : (e2.attrs.map (·.1)).Nodup) :
    reportsNothing (compareEcu ign e1 e2) =
      ((ign.igComment || e1.comment == e2.comment) && (ign.igAttr || sameDict e1.attrs e2.attrs)) := by
  simp only [compareEcu, reportsNothing_equal, List.all_append, all_ite_bne, reportsNothing_leaf_ne, Bool.or_false,
    all_ite_nil_else, List.all_cons, List.all_nil, Bool.and_true, compareAttributes_ok _ _ h, ne_eq, String.reduceEq,
    not_false_eq_true]

/-! the `match`-children of `compareFrame` / `frameAgree`, named so that lemmas can mention them -/
def sigChild (ign : Ign) (g : QFrame) (s1 : QSig) : Res :=
  match g.sigs.find? (·.name == s1.name) with
  | none => leaf "deleted" "SIGNAL"
  | some s2 => compareSignal ign s1 s2
def sigSpec (ign : Ign) (g : QFrame) (s : QSig) : Bool :=
  match g.sigs.find? (·.name == s.name) with
  | some t => sigAgree ign s t
  | none => false
def groupChild (g : QFrame) (g1 : QGroup) : Res :=
  match g.groups.find? (·.name == g1.name) with
  | none => leaf "removed" "Signalgroup"
  | some g2 => compareSignalGroup g1 g2
def groupSpec (g : QFrame) (x : QGroup) : Bool :=
  match g.groups.find? (·.name == x.name) with
  | some y => groupAgree x y
  | none => false

theorem frameAgree_eq (ign : Ign) (f g : QFrame) : frameAgree ign f g =
  (f.name == g.name && f.size == g.size && f.id == g.id && f.ext == g.ext &&
  (ign.igComment || f.comment.getD "" == g.comment.getD "") &&
  (f.sigs.all (sigSpec ign g)) &&
  (g.sigs.all fun t => f.sigs.any (·.name == t.name)) &&
  (ign.igAttr || sameDict f.attrs g.attrs) &&
  sameSet f.transmitters g.transmitters &&
  (f.groups.all (groupSpec g)) &&
  (g.groups.all fun y => f.groups.any (·.name == y.name))) := rfl

theorem sigChild_ok (ign : Ign) (g : QFrame)
    (hs : ∀ t ∈ g.sigs, (t.attrs.map (·.1)).Nodup ∧ (t.values.map (·.1)).Nodup) :
    reportsNothing ∘ sigChild ign g = sigSpec ign g := by
  funext s
  unfold Function.comp sigChild sigSpec
  cases h : g.sigs.find? (·.name == s.name) with
  | none => exact reportsNothing_leaf_ne "deleted" "SIGNAL" (by decide)
  | some t =>
    have := hs t (List.mem_of_find?_eq_some h)
    exact compareSignal_ok ign s t this.1 this.2

theorem groupChild_ok (g : QFrame) : reportsNothing ∘ groupChild g = groupSpec g := by
  funext x
  unfold Function.comp groupChild groupSpec
  cases g.groups.find? (·.name == x.name) with
  | none => exact reportsNothing_leaf_ne "removed" "Signalgroup" (by decide)
  | some y => exact compareSignalGroup_ok x y

theorem compareFrame_ok (ign : Ign) (f g : QFrame) (ha : (g.attrs.map (·.1)).Nodup)
    (hs : ∀ t ∈ g.sigs, (t.attrs.map (·.1)).Nodup ∧ (t.values.map (·.1)).Nodup) :
    reportsNothing (compareFrame ign f g) = frameAgree ign f g := by
  rw [frameAgree_eq]
  -- the children in the order of Model/Compare.lean; `frameAgree_eq` lists the conjuncts in another order, hence `ac_rfl`
  show reportsNothing (.node _ _
    (f.sigs.map (sigChild ign g) ++ _ ++ _ ++ _ ++ _ ++ _ ++ _ ++ _ ++ _ ++ _ ++ f.groups.map (groupChild g) ++ _)) = _
  simp only [reportsNothing_equal, sameSet, List.all_append, List.all_map, sigChild_ok ign g hs, groupChild_ok g,
    all_ite_bne, all_filterMap_option, all_ite_none, all_ite_some, reportsNothing_leaf_ne, Bool.or_false, Option.not_isNone,
    List.isSome_find?, all_ite_nil_else, List.all_cons, List.all_nil, Bool.and_true,
    compareAttributes_ok _ _ ha, ne_eq, String.reduceEq, not_false_eq_true]
  ac_rfl

/-! `propagate` counts a node without a type that is not "equal", `reportsNothing` skips it: they agree only on trees
whose nodes below the root all carry a type (example in Props/C13.lean), which the comparison builds. -/

mutual
def typedAll : Res → Bool
  | .node _ t cs => t.isSome && typedAllList cs
def typedAllList : List Res → Bool
  | [] => true
  | c :: rest => typedAll c && typedAllList rest
end

def typedBelow : Res → Bool
  | .node _ _ cs => typedAllList cs

mutual
/-- In a typed tree a node becomes "changed" exactly when something below it reports, and then it reported before too. -/
theorem propagate_typed : (c : Res) → typedAll c = true →
    reportsNothing (propagate c).1 = reportsNothing c ∧ ((propagate c).2 = 0 ↔ reportsNothing c = true)
  | .node r t cs => by
    intro h
    simp only [typedAll, Bool.and_eq_true, Option.isSome_iff_exists] at h
    obtain ⟨⟨tt, rfl⟩, hcs⟩ := h
    obtain ⟨ih1, ih2⟩ := propagateList_typed cs hcs
    simp only [propagate, reportsNothing, ih1, Option.isNone_some, Bool.false_or]
    cases hn : (propagateList cs).2 with
    | zero => simp [ih2.1 hn]
    | succ n =>
      have : reportsNothingList cs = false := Bool.eq_false_iff.2 fun hh => by simp [ih2.2 hh] at hn
      simp [this]
theorem propagateList_typed : (cs : List Res) → typedAllList cs = true →
    reportsNothingList (propagateList cs).1 = reportsNothingList cs ∧
      ((propagateList cs).2 = 0 ↔ reportsNothingList cs = true)
  | [] => fun _ => ⟨rfl, by simp [propagateList, reportsNothingList]⟩
  | c :: rest => by
    intro h
    simp only [typedAllList, Bool.and_eq_true] at h
    obtain ⟨a1, a2⟩ := propagate_typed c h.1
    obtain ⟨b1, b2⟩ := propagateList_typed rest h.2
    simp only [propagateList, reportsNothingList, a1, b1, Nat.add_eq_zero_iff, a2, b2, Bool.and_eq_true, and_self]
end

theorem propagate_reports_typed (t : Res) (h : typedBelow t = true) :
    reportsNothing (propagate t).1 = reportsNothing t := by
  obtain ⟨r, ty, cs⟩ := t
  cases ty with
  | some tt => exact (propagate_typed (.node r (some tt) cs) h).1
  | none => simp only [propagate, reportsNothing, (propagateList_typed cs h).1, Option.isNone_none, Bool.true_or]

theorem typedAllList_eq_all (l : List Res) : typedAllList l = l.all typedAll := by
  induction l with
  | nil => rfl
  | cons c rest ih => rw [typedAllList, ih, List.all_cons]

theorem typedAll_node (r t : Option String) (cs : List Res) :
    typedAll (.node r t cs) = (t.isSome && cs.all typedAll) := by
  rw [typedAll, typedAllList_eq_all]

theorem typedAll_leaf (r t : String) : typedAll (leaf r t) = true := rfl

theorem all_const_true {α : Type} (l : List α) : (l.all fun _ => true) = true :=
  List.all_eq_true.2 fun _ _ => rfl

theorem compareAttributes_typed (a1 a2 : KV) : typedAll (compareAttributes a1 a2) = true := by
  simp only [compareAttributes, typedAll_node, List.all_append, all_filterMap_option, all_ite_some, typedAll_leaf, Bool.or_true,
    all_const_true, Option.isSome_some, Bool.true_and, Bool.and_true]
  refine List.all_eq_true.2 fun kv _ => ?_
  split
  · rfl
  · split <;> rfl

theorem compareValueTable_typed (a1 a2 : List (Int × String)) : typedAll (compareValueTable a1 a2) = true := by
  simp only [compareValueTable, typedAll_node, List.all_append, all_filterMap_option, all_ite_some, typedAll_leaf, Bool.or_true,
    all_const_true, Option.isSome_some, Bool.true_and, Bool.and_true]
  refine List.all_eq_true.2 fun kv _ => ?_
  split
  · rfl
  · split <;> rfl

theorem compareSignalGroup_typed (g h : QGroup) : typedAll (compareSignalGroup g h) = true := by
  simp only [compareSignalGroup, typedAll_node, List.all_append, all_ite_bne, all_filterMap_option, all_ite_none, typedAll_leaf,
    Bool.or_true, all_const_true, Option.isSome_some, Bool.and_self]

theorem compareDefineList_typed (t : String) (a1 a2 : List (String × QDef)) : typedAll (compareDefineList t a1 a2) = true := by
  simp only [compareDefineList, typedAll_node, List.all_append, all_filterMap_option, all_ite_some, typedAll_leaf, Bool.or_true,
    all_const_true, Option.isSome_some, Bool.true_and, Bool.and_true, List.all_flatMap]
  refine List.all_eq_true.2 fun kv _ => ?_
  split
  · rfl
  · simp only [List.all_append, all_ite_bne, typedAll_leaf, Bool.or_true, Bool.and_self]

theorem compareSignal_typed (ign : Ign) (s t : QSig) : typedAll (compareSignal ign s t) = true := by
  simp only [compareSignal, typedAll_node, List.all_append, all_ite_bne, all_filterMap_option, all_ite_none, all_ite_nil_else,
    typedAll_leaf, all_const_true, List.all_cons, List.all_nil, compareAttributes_typed, compareValueTable_typed, Option.isSome_some,
    Bool.and_self, Bool.or_true, Bool.and_true, Bool.true_and]
  cases ign.igComment with
  | true => rfl
  | false =>
    cases s.comment with
    | none => rfl
    | some c1 =>
      cases t.comment with
      | none => rfl
      | some c2 => rw [all_ite_bne]; exact Bool.or_true _

theorem compareFrame_typed (ign : Ign) (f g : QFrame) : typedAll (compareFrame ign f g) = true := by
  have h1 : ∀ s, typedAll (sigChild ign g s) = true := by
    intro s; unfold sigChild; split
    · rfl
    · exact compareSignal_typed ..
  have h2 : ∀ s, typedAll (groupChild g s) = true := by
    intro s; unfold groupChild; split
    · rfl
    · exact compareSignalGroup_typed ..
  -- the children in the order of Model/Compare.lean, as in `compareFrame_ok`
  show typedAll (.node _ _
    (f.sigs.map (sigChild ign g) ++ _ ++ _ ++ _ ++ _ ++ _ ++ _ ++ _ ++ _ ++ _ ++ f.groups.map (groupChild g) ++ _)) = _
  simp only [typedAll_node, List.all_append, List.all_map, Function.comp_def, h1, h2, all_ite_bne, all_filterMap_option, all_ite_none,
    all_ite_some, all_ite_nil_else, typedAll_leaf, all_const_true, List.all_cons, List.all_nil, compareAttributes_typed,
    Option.isSome_some, Bool.and_self, Bool.or_true]

theorem compareEcu_typed (ign : Ign) (e1 e2 : QEcu) : typedAll (compareEcu ign e1 e2) = true := by
  simp only [compareEcu, typedAll_node, List.all_append, all_ite_bne, all_ite_nil_else, typedAll_leaf,
    List.all_cons, List.all_nil, compareAttributes_typed, Option.isSome_some, Bool.and_self, Bool.or_true]

def frameChild (ign : Ign) (db2 : QMat) (f1 : QFrame) : Res :=
  match frameByName db2 f1.name with
  | some f2 => compareFrame ign f1 f2
  | none => match frameByIdQ db2 f1.id f1.ext with
    | some f2 => compareFrame ign f1 f2
    | none => leaf "deleted" "FRAME"
def frameSpec (ign : Ign) (b : QMat) (f : QFrame) : Bool :=
  match partner b f with
  | some g => frameAgree ign f g
  | none => false
def ecuChild (ign : Ign) (db2 : QMat) (e1 : QEcu) : Res :=
  match db2.ecus.find? (·.name == e1.name) with
  | none => leaf "deleted" "ecu"
  | some e2 => compareEcu ign e1 e2
def ecuSpec (ign : Ign) (b : QMat) (e : QEcu) : Bool :=
  match b.ecus.find? (·.name == e.name) with
  | some e' => (ign.igComment || e.comment == e'.comment) && (ign.igAttr || sameDict e.attrs e'.attrs)
  | none => false
def vtChild (db2 : QMat) (kv : String × List (Int × String)) : Res :=
  match (db2.valueTables.find? (·.1 == kv.1)).map (·.2) with
  | none => leaf "deleted" ("valuetable " ++ kv.1)
  | some v2 => compareValueTable kv.2 v2
def vtSpec (b : QMat) (kv : String × List (Int × String)) : Bool :=
  match b.valueTables.find? (·.1 == kv.1) with
  | some kw => sameTable kv.2 kw.2
  | none => false

/-- the result tree of `compareDb` before `propagate` -/
def compareDbPre (ign : Ign) (db1 db2 : QMat) : Res :=
  .node none none
    (db1.frames.map (frameChild ign db2) ++
     (db2.frames.filterMap fun f2 =>
        if (frameByName db1 f2.name).isNone && (frameByIdQ db1 f2.id f2.ext).isNone then some (leaf "added" "FRAME") else none) ++
     (if ign.igAttr then [] else [compareAttributes db1.attrs db2.attrs]) ++
     db1.ecus.map (ecuChild ign db2) ++
     (db2.ecus.filterMap fun e2 => if (db1.ecus.find? (·.name == e2.name)).isNone then some (leaf "added" "ecu") else none) ++
     (if ign.igDefine then [] else
      [compareDefineList "DefineList" db1.gdefs db2.gdefs, compareDefineList "ECU Defines" db1.edefs db2.edefs,
       compareDefineList "Frame Defines" db1.fdefs db2.fdefs, compareDefineList "Signal Defines" db1.sdefs db2.sdefs]) ++
     (if ign.igVt then [] else
      (db1.valueTables.map (vtChild db2)) ++
      (db2.valueTables.filterMap fun kv =>
        if (db1.valueTables.find? (·.1 == kv.1)).isNone then some (leaf "added" ("valuetable " ++ kv.1)) else none)))

theorem agree_eq (ign : Ign) (a b : QMat) : agree ign a b =
  ((a.frames.all (frameSpec ign b)) &&
  (b.frames.all fun g => (partner a g).isSome) &&
  (ign.igAttr || sameDict a.attrs b.attrs) &&
  (a.ecus.all (ecuSpec ign b)) &&
  (b.ecus.all fun e' => a.ecus.any (·.name == e'.name)) &&
  (ign.igDefine || (sameDefs a.gdefs b.gdefs && sameDefs a.edefs b.edefs && sameDefs a.fdefs b.fdefs && sameDefs a.sdefs b.sdefs)) &&
  (ign.igVt ||
    ((a.valueTables.all (vtSpec b)) &&
     (b.valueTables.all fun kw => a.valueTables.any (·.1 == kw.1))))) := rfl

/-- `C13.WfMat` of Props/C13.lean with `KeysNodup` unfolded (`C13.WfMat.raw`) -/
structure RawWf (m : QMat) : Prop where
  attrs : (m.attrs.map (·.1)).Nodup
  gdefs : (m.gdefs.map (·.1)).Nodup
  edefs : (m.edefs.map (·.1)).Nodup
  fdefs : (m.fdefs.map (·.1)).Nodup
  sdefs : (m.sdefs.map (·.1)).Nodup
  vts : (m.valueTables.map (·.1)).Nodup ∧ ∀ kv ∈ m.valueTables, (kv.2.map (·.1)).Nodup
  ecus : ∀ e ∈ m.ecus, (e.attrs.map (·.1)).Nodup
  frames : ∀ f ∈ m.frames, (f.attrs.map (·.1)).Nodup ∧ ∀ s ∈ f.sigs, (s.attrs.map (·.1)).Nodup ∧ (s.values.map (·.1)).Nodup

theorem frameChild_ok (ign : Ign) (b : QMat) (hb : RawWf b) : reportsNothing ∘ frameChild ign b = frameSpec ign b := by
  funext f
  have hf : ∀ g ∈ b.frames, reportsNothing (compareFrame ign f g) = frameAgree ign f g :=
    fun g hg => compareFrame_ok ign f g (hb.frames g hg).1 (hb.frames g hg).2
  unfold Function.comp frameChild frameSpec partner frameByName frameByIdQ
  cases h : b.frames.find? (·.name == f.name) with
  | some g => exact hf g (List.mem_of_find?_eq_some h)
  | none =>
    cases h' : b.frames.find? (fun g => g.id == f.id && g.ext == f.ext) with
    | some g => exact hf g (List.mem_of_find?_eq_some h')
    | none => exact reportsNothing_leaf_ne "deleted" "FRAME" (by decide)

theorem ecuChild_ok (ign : Ign) (b : QMat) (hb : RawWf b) : reportsNothing ∘ ecuChild ign b = ecuSpec ign b := by
  funext e
  unfold Function.comp ecuChild ecuSpec
  cases h : b.ecus.find? (·.name == e.name) with
  | some g => exact compareEcu_ok ign e g (hb.ecus g (List.mem_of_find?_eq_some h))
  | none => exact reportsNothing_leaf_ne "deleted" "ecu" (by decide)

theorem vtChild_ok (b : QMat) (hb : RawWf b) : reportsNothing ∘ vtChild b = vtSpec b := by
  funext kv
  unfold Function.comp vtChild vtSpec
  cases h : b.valueTables.find? (·.1 == kv.1) with
  | some g => exact compareValueTable_ok kv.2 g.2 (hb.vts.2 g (List.mem_of_find?_eq_some h))
  | none => exact reportsNothing_leaf_ne "deleted" ("valuetable " ++ kv.1) (by decide)

theorem partner_isSome (a : QMat) (g : QFrame) :
    (!((frameByName a g.name).isNone && (frameByIdQ a g.id g.ext).isNone)) = (partner a g).isSome := by
  unfold partner frameByName frameByIdQ
  cases a.frames.find? (·.name == g.name) with
  | some f => rfl
  | none => exact Option.not_isNone _

theorem compareDbPre_ok (ign : Ign) (a b : QMat) (hb : RawWf b) :
    reportsNothing (compareDbPre ign a b) = agree ign a b := by
  rw [agree_eq, compareDbPre]
  simp only [reportsNothing_node, Option.isNone_none, Bool.true_or, Bool.true_and, List.all_append, List.all_map,
    frameChild_ok ign b hb, ecuChild_ok ign b hb, vtChild_ok b hb, all_filterMap_option, all_ite_some, reportsNothing_leaf_ne,
    Bool.or_false, partner_isSome, Option.not_isNone, List.isSome_find?, all_ite_nil_else, List.all_cons, List.all_nil,
    Bool.and_true, compareAttributes_ok _ _ hb.attrs,
    compareDefineList_ok _ _ _ hb.gdefs, compareDefineList_ok _ _ _ hb.edefs, compareDefineList_ok _ _ _ hb.fdefs,
    compareDefineList_ok _ _ _ hb.sdefs, ne_eq, String.reduceEq, not_false_eq_true, Bool.and_assoc]

theorem compareDbPre_typed (ign : Ign) (a b : QMat) : typedBelow (compareDbPre ign a b) = true := by
  have h1 : ∀ f, typedAll (frameChild ign b f) = true := by
    intro f; unfold frameChild; split
    · exact compareFrame_typed ..
    · split
      · exact compareFrame_typed ..
      · rfl
  have h2 : ∀ e, typedAll (ecuChild ign b e) = true := by
    intro e; unfold ecuChild; split
    · rfl
    · exact compareEcu_typed ..
  have h3 : ∀ kv, typedAll (vtChild b kv) = true := by
    intro e; unfold vtChild; split
    · rfl
    · exact compareValueTable_typed ..
  simp only [compareDbPre, typedBelow, typedAllList_eq_all, List.all_append, List.all_map, Function.comp_def, h1, h2, h3,
    all_filterMap_option, all_ite_some, all_ite_nil_else, typedAll_leaf, all_const_true, List.all_cons, List.all_nil,
    compareAttributes_typed, compareDefineList_typed, Bool.and_self, Bool.or_true]

theorem compareDb_ok (ign : Ign) (a b : QMat) (hb : RawWf b) :
    reportsNothing (compareDb ign a b) = agree ign a b := by
  show reportsNothing (propagate (compareDbPre ign a b)).1 = _
  rw [propagate_reports_typed _ (compareDbPre_typed ..), compareDbPre_ok _ _ _ hb]

theorem all_any_self {α : Type} (l : List α) (p : α → α → Bool) (hp : ∀ x, p x x = true) :
    (l.all fun y => l.any fun x => p x y) = true :=
  List.all_eq_true.2 fun y hy => List.any_eq_true.2 ⟨y, hy, hp y⟩

theorem sameSet_refl (a : List String) : sameSet a a = true := by
  simp [sameSet]

theorem sigAgree_refl (ign : Ign) (s : QSig) : sigAgree ign s s = true := by
  simp only [sigAgree, sameSet_refl, sameDict, sameTable, all_any_self, BEq.rfl, implies_true, Bool.and_self, Bool.or_true,
    Bool.true_and, Bool.and_true]
  cases s.comment <;> simp

theorem groupAgree_refl (g : QGroup) : groupAgree g g = true := by
  simp only [groupAgree, sameSet_refl, BEq.rfl, Bool.and_self]

theorem frameAgree_refl (ign : Ign) (f : QFrame) (hs : (f.sigs.map (·.name)).Nodup)
    (hg : (f.groups.map (·.name)).Nodup) : frameAgree ign f f = true := by
  have h1 : f.sigs.all (sigSpec ign f) = true := List.all_eq_true.2 fun s hm => by
    rw [sigSpec, find?_self_of_nodup (·.name) _ hs s hm]; exact sigAgree_refl ign s
  have h2 : f.groups.all (groupSpec f) = true := List.all_eq_true.2 fun s hm => by
    rw [groupSpec, find?_self_of_nodup (·.name) _ hg s hm]; exact groupAgree_refl s
  simp only [frameAgree_eq, h1, h2, all_any_self, sameSet_refl, sameDict, BEq.rfl, implies_true, Bool.and_self,
    Bool.or_true]

theorem partner_self (a : QMat) (hn : (a.frames.map (·.name)).Nodup) (f : QFrame) (hf : f ∈ a.frames) :
    partner a f = some f := by
  rw [partner, find?_self_of_nodup (·.name) _ hn f hf]

theorem agree_refl_raw (ign : Ign) (a : QMat)
    (hfn : (a.frames.map (·.name)).Nodup) (hen : (a.ecus.map (·.name)).Nodup)
    (hsn : ∀ f ∈ a.frames, (f.sigs.map (·.name)).Nodup ∧ (f.groups.map (·.name)).Nodup)
    (hvt : (a.valueTables.map (·.1)).Nodup) : agree ign a a = true := by
  have h1 : a.frames.all (frameSpec ign a) = true := List.all_eq_true.2 fun f hf => by
    unfold frameSpec; rw [partner_self a hfn f hf]; exact frameAgree_refl ign f (hsn f hf).1 (hsn f hf).2
  have h2 : (a.frames.all fun g => (partner a g).isSome) = true := List.all_eq_true.2 fun f hf => by
    rw [partner_self a hfn f hf]; rfl
  have h3 : a.ecus.all (ecuSpec ign a) = true := List.all_eq_true.2 fun e he => by
    rw [ecuSpec, find?_self_of_nodup (·.name) _ hen e he]
    simp only [sameDict, all_any_self, BEq.rfl, implies_true, Bool.or_true, Bool.and_self]
  have h5 : a.valueTables.all (vtSpec a) = true := List.all_eq_true.2 fun kv hk => by
    rw [vtSpec, find?_self_of_nodup (·.1) _ hvt kv hk]
    simp only [sameTable, all_any_self, BEq.rfl, implies_true, Bool.and_self]
  simp only [agree_eq, h1, h2, h3, h5, all_any_self, sameDict, sameDefs, BEq.rfl, implies_true, Bool.and_self,
    Bool.or_true]

/-! the right side of `C13.ignore_valuetables_scope`, which spells these three functions out -/
def stripSig (s : QSig) : QSig := { s with values := [] }
def stripFrame (f : QFrame) : QFrame := { f with sigs := f.sigs.map stripSig }
def stripMat (a : QMat) : QMat := { a with valueTables := [], frames := a.frames.map stripFrame }

theorem find?_map_of_pres {α : Type} (φ : α → α) (p : α → Bool) (hp : ∀ x, p (φ x) = p x) (l : List α) :
    (l.map φ).find? p = (l.find? p).map φ := by
  rw [List.find?_map, show p ∘ φ = p from funext hp]

theorem sigSpec_strip (ign : Ign) (hv : ign.igVt = true) (g : QFrame) (s : QSig) :
    sigSpec ign (stripFrame g) (stripSig s) = sigSpec ign g s := by
  show (match (g.sigs.map stripSig).find? (fun x => x.name == s.name) with
    | some t => sigAgree ign (stripSig s) t
    | none => false) = _
  rw [find?_map_of_pres stripSig _ fun _ => rfl, sigSpec]
  cases g.sigs.find? (fun x => x.name == s.name) with
  | none => rfl
  | some t => simp only [Option.map_some, sigAgree, stripSig, hv, Bool.true_or]

theorem frameAgree_strip (ign : Ign) (hv : ign.igVt = true) (f g : QFrame) :
    frameAgree ign (stripFrame f) (stripFrame g) = frameAgree ign f g := by
  rw [frameAgree_eq, frameAgree_eq]
  have h1 : (stripFrame f).sigs.all (sigSpec ign (stripFrame g)) = f.sigs.all (sigSpec ign g) :=
    List.all_map.trans (List.all_congr rfl (sigSpec_strip ign hv g))
  have h2 : ((stripFrame g).sigs.all fun t => (stripFrame f).sigs.any (·.name == t.name)) =
      (g.sigs.all fun t => f.sigs.any (·.name == t.name)) := by
    show ((g.sigs.map stripSig).all fun t => (f.sigs.map stripSig).any (·.name == t.name)) = _
    simp only [List.all_map, List.any_map]; rfl
  rw [h1, h2]
  rfl

theorem partner_strip (b : QMat) (f : QFrame) :
    partner (stripMat b) (stripFrame f) = (partner b f).map stripFrame := by
  show (match (b.frames.map stripFrame).find? (fun x => x.name == f.name) with
    | some g => some g
    | none => (b.frames.map stripFrame).find? (fun x => x.id == f.id && x.ext == f.ext)) = _
  rw [find?_map_of_pres stripFrame _ fun _ => rfl, find?_map_of_pres stripFrame _ fun _ => rfl, partner]
  cases b.frames.find? (fun x => x.name == f.name) <;> rfl

theorem agree_strip (ign : Ign) (hv : ign.igVt = true) (a b : QMat) :
    agree ign a b = agree ign (stripMat a) (stripMat b) := by
  rw [agree_eq, agree_eq]
  have h1 : (stripMat a).frames.all (frameSpec ign (stripMat b)) = a.frames.all (frameSpec ign b) :=
    List.all_map.trans <| List.all_congr rfl fun f => by
      simp only [Function.comp_apply, frameSpec, partner_strip]
      cases partner b f with
      | none => rfl
      | some g => exact frameAgree_strip ign hv f g
  have h2 : ((stripMat b).frames.all fun g => (partner (stripMat a) g).isSome) =
      (b.frames.all fun g => (partner a g).isSome) :=
    List.all_map.trans <| List.all_congr rfl fun f => by
      simp only [Function.comp_apply, partner_strip, Option.isSome_map]
  rw [h1, h2, hv]
  rfl

end CanVerif
