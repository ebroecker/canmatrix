import CanVerif.Model.DbcFile
import CanVerif.Proofs.StrLit
/-!
# The example matrix of Props/C05h - C05o, and that it meets the hypotheses of the round-trip theorems

The well-formedness conditions are evaluated once here; an example about what is read back from a written file of the example matrix is
the round-trip theorem of its Props file at these facts.  Examples about the text of a file, and about files outside the hypotheses
(a refused value, a missing signal), are evaluated where they stand.
-/

namespace CanVerif.C05h
open CanVerif CanVerif.Dbc

def exSg (name : String) (start : Nat) : SgLine :=
  { name := name.toList, tag := .none, start := start, size := 8, little := true, signed := false,
    factor := ⟨false, 5, -1⟩, offset := ⟨false, 0, 0⟩, min := ⟨false, 0, 0⟩, max := ⟨false, 100, 0⟩, unit := "km/h".toList,
    receivers := ["ECU_B".toList] }

def exFrames : List (WFrame × (Nat × Bool)) :=
  [({ bo := ⟨291, "Engine".toList, 8, "ECU_A".toList⟩,
      sigs := [{ sg := exSg "Speed" 0, comment := some "vehicle speed\nsecond line".toList, values := [(255, "invalid".toList), (0, "stand \"still\"".toList)] },
               { sg := { exSg "Rpm" 8 with size := 32 }, isFloat := true }],
      moreSenders := ["Gateway".toList], comment := some "engine data".toList,
      groups := [{ name := "Grp".toList, id := 1, members := ["Rpm".toList, "Speed".toList] }] }, (291, false)),
   ({ bo := ⟨2147483939, "EngineExt".toList, 8, "ECU_A".toList⟩, sigs := [{ sg := exSg "Speed" 0 }] }, (291, true))]

theorem exFrames_wf : ∀ p ∈ exFrames, p.1.wf p.2 = true := by unfold exFrames exSg; lit_chars; decide +kernel
theorem exFrames_distinct : exFrames.Pairwise fun p q => p.2 ≠ q.2 := by unfold exFrames; decide +kernel

end CanVerif.C05h

namespace CanVerif.C05j
open CanVerif CanVerif.Dbc

def exEcus : List WEcu := [{ name := "ECU_A".toList, comment := some "engine\ncontrol unit".toList }, { name := "ECU_B".toList },
  { name := "Gateway".toList, comment := some "gw".toList }]

theorem exEcus_wf : wfEcus exEcus = true := by unfold exEcus; lit_chars; decide +kernel

end CanVerif.C05j

namespace CanVerif.C05k
open CanVerif CanVerif.Dbc

def exDefs : List DefLine := [⟨.frame, "GenMsgCycleTime".toList, "INT 0 65535".toList⟩, ⟨.ecu, "NodeKind".toList, "STRING".toList⟩,
  ⟨.global, "BusSpeed".toList, "FLOAT 0 1000".toList⟩, ⟨.signal, "NodeKind".toList, "ENUM \"a\",\"b\"".toList⟩]
def exDefaults : List DefDefLine := [⟨"GenMsgCycleTime".toList, false, "0".toList⟩, ⟨"NodeKind".toList, true, "plain".toList⟩]
def exEcusA : List WEcu := [{ name := "ECU_A".toList, comment := some "engine\ncontrol unit".toList, attrs := [("NodeKind".toList, "\"main unit\"".toList)] },
  { name := "ECU_B".toList }, { name := "Gateway".toList, comment := some "gw".toList }]
def exGlobal : List (Str × Str) := [("BusSpeed".toList, "500.5".toList)]

theorem exEcusA_wf : wfEcus exEcusA = true := by unfold exEcusA; lit_chars; decide +kernel
theorem exDefs_wf : wfDefs exDefs = true := by unfold exDefs; lit_chars; decide +kernel
theorem exDefaults_wf : wfDefaults exDefs exDefaults = true := by unfold exDefs exDefaults; lit_chars; decide +kernel
theorem exGlobal_wf : wfAttrs (expectDefs exDefs exDefaults) .global .global exGlobal = true := by
  unfold exDefs exDefaults exGlobal; lit_chars; decide +kernel
theorem exEcusA_attrs_wf : ∀ e ∈ exEcusA, wfAttrs (expectDefs exDefs exDefaults) .ecu (.ecu e.name) e.attrs = true := by
  unfold exDefs exDefaults exEcusA; lit_chars; decide +kernel

end CanVerif.C05k

namespace CanVerif.C05l
open CanVerif CanVerif.Dbc

def exFramesA : List (WFrame × (Nat × Bool)) :=
  [({ bo := ⟨291, "Engine".toList, 8, "ECU_A".toList⟩,
      sigs := [{ sg := CanVerif.C05h.exSg "Speed" 0, comment := some "vehicle speed".toList, values := [(255, "invalid".toList)],
                 attrs := [("NodeKind".toList, "1".toList)] },
               { sg := { CanVerif.C05h.exSg "Rpm" 8 with size := 32 }, isFloat := true }],
      moreSenders := ["Gateway".toList], comment := some "engine data".toList,
      attrs := [("GenMsgCycleTime".toList, "100".toList)] }, (291, false)),
   ({ bo := ⟨2147483939, "EngineExt".toList, 8, "ECU_A".toList⟩, sigs := [{ sg := CanVerif.C05h.exSg "Speed" 0 }] }, (291, true))]

theorem exFramesA_wf : ∀ p ∈ exFramesA, p.1.wf p.2 = true := by unfold exFramesA CanVerif.C05h.exSg; lit_chars; decide +kernel
theorem exFramesA_distinct : exFramesA.Pairwise fun p q => p.2 ≠ q.2 := by unfold exFramesA; decide +kernel
theorem exFramesA_attrs_wf : ∀ p ∈ exFramesA, p.1.wfA (expectDefs CanVerif.C05k.exDefs CanVerif.C05k.exDefaults) = true := by
  unfold exFramesA CanVerif.C05h.exSg CanVerif.C05k.exDefs CanVerif.C05k.exDefaults; lit_chars; decide +kernel

end CanVerif.C05l

namespace CanVerif.C05n
open CanVerif CanVerif.Dbc

def exTables : List WTable := [⟨"Gear".toList, [(0, "N".toList), (1, "D".toList), (15, "invalid \"x\"".toList)]⟩, ⟨"Empty".toList, []⟩]

theorem exTables_wf : wfTables exTables = true := by unfold exTables; lit_chars; decide +kernel

end CanVerif.C05n
