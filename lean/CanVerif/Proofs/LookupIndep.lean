import CanVerif.Model.Lookup
import CanVerif.Spec.Lookup
import CanVerif.Proofs.Lookup
/-!
# The independence judge on the model's own histories (C10b)

What the judge knows about a frame object stays true of the heap (`KnownOk`) along every history:
operations other than the two frame edits leave existing objects where they are
(`LookupProofs.step_heap_stable`), the two edits are followed by `Spec.noteEdit`, and a snapshot taken
from a world describes that world's objects (`SnapTrue`).
-/
namespace CanVerif.C10b
open CanVerif

/-- the snapshot of matrix `m`: its frames with handle, name, identifier and format -/
def snapMat (w : World) (m : Nat) : Option (List Spec.FrameSnap) :=
  (w.mat m).map fun x => x.frames.filterMap fun h =>
    (w.obj h).map fun o => { handle := h, name := o.name, id := o.id, ext := o.ext }

/-- the snapshot the harness records with an operation (`w` before, `w'` after the operation) -/
def snapWith (w w' : World) : LOp → Option (List Spec.FrameSnap)
  | .byId m _ _ | .byName m _ | .byPgn m _ => snapMat w m
  | .copyFrame _ dst _ _ => snapMat w' dst
  | .merge dst _ => snapMat w' dst
  | .deepcopy _ | .loadMatrix _ => snapMat w' w.mats.length
  | _ => none

/-- what the judge learns from the operation itself -/
def editWith (w : World) : LOp → Spec.Edit
  | .newFrame name id ext => .create w.heap.length name id ext
  | .setId h id ext => .setId h id ext
  | .renameFrame _ old new => .rename old new
  | _ => .none

/-- what the judge knows is true of the heap -/
def KnownOk (w : World) (ks : List Spec.Known) : Prop :=
  ∀ k ∈ ks, ∃ o, w.obj k.handle = some o ∧ o.id = k.id ∧ o.ext = k.ext ∧ o.name ∈ k.names

end CanVerif.C10b

namespace CanVerif.LookupIndep
open CanVerif C10b

def SnapTrue (w : World) (sn : List Spec.FrameSnap) : Prop :=
  ∀ f ∈ sn, ∃ o, w.obj f.handle = some o ∧ o.name = f.name ∧ o.id = f.id ∧ o.ext = f.ext

theorem lt_of_get {α} {l : List α} {i : Nat} {a : α} (h : l[i]? = some a) : i < l.length :=
  (List.getElem?_eq_some_iff.mp h).1

theorem knownOk_mono {w w' : World} (hobj : ∀ i, i < w.heap.length → w'.heap[i]? = w.heap[i]?)
    {ks : List Spec.Known} (h : KnownOk w ks) : KnownOk w' ks := by
  intro k hk
  obtain ⟨o, ho, r⟩ := h k hk
  exact ⟨o, (hobj _ (lt_of_get ho)).trans ho, r⟩

theorem snapTrue_mono {w w' : World} (hobj : ∀ i, i < w.heap.length → w'.heap[i]? = w.heap[i]?)
    {sn : List Spec.FrameSnap} (h : SnapTrue w sn) : SnapTrue w' sn := by
  intro f hf
  obtain ⟨o, ho, r⟩ := h f hf
  exact ⟨o, (hobj _ (lt_of_get ho)).trans ho, r⟩

theorem snapAgrees_of {w : World} {ks : List Spec.Known} {sn : List Spec.FrameSnap}
    (hk : KnownOk w ks) (hs : SnapTrue w sn) : Spec.snapAgrees ks sn = true := by
  unfold Spec.snapAgrees
  rw [List.all_eq_true]
  intro f hf
  obtain ⟨o, ho, hn, hi, he⟩ := hs f hf
  split
  · rfl
  · rename_i k hfind
    have hh : k.handle = f.handle := by simpa using List.find?_some hfind
    obtain ⟨o', ho', hi', he', hn'⟩ := hk k (List.mem_of_find?_eq_some hfind)
    rw [hh, ho] at ho'
    cases ho'
    rw [← hi', ← he', hi, he, hn] at *
    simp only [beq_self_eq_true, Bool.true_and, List.contains_iff_mem]
    exact hn'

theorem noteSnap_ok {w : World} {sn : List Spec.FrameSnap} {ks : List Spec.Known}
    (hk : KnownOk w ks) (hs : SnapTrue w sn) : KnownOk w (Spec.noteSnap ks sn) := by
  refine List.foldlRecOn (motive := KnownOk w) _ _ hk fun ks hk f hf => ?_
  obtain ⟨o, ho, hn, hi, he⟩ := hs f hf
  exact List.forall_mem_cons.mpr ⟨⟨o, ho, hi, he, by simp [hn]⟩, fun k hmem => hk k (List.mem_filter.mp hmem).1⟩

theorem rename_get (heap : List FObj) (P : Nat → FObj → Bool) (new : String) {i : Nat} {o : FObj}
    (h : heap[i]? = some o) :
    ((List.range heap.length).map fun h =>
        match heap[h]? with
        | some o => if P h o then { o with name := new } else o
        | none => default)[i]? = some (if P i o then { o with name := new } else o) := by
  rw [List.getElem?_map, List.getElem?_range (lt_of_get h)]
  simp only [Option.map_some, h]

theorem noteEdit_ok (w : World) (op : LOp) (ks : List Spec.Known) (hk : KnownOk w ks) :
    KnownOk (step w op).1 (Spec.noteEdit ks (editWith w op)) := by
  cases op
  case newFrame name id ext =>
    intro k hmem
    rcases List.mem_cons.mp hmem with rfl | hmem
    · exact ⟨{ name, id, ext }, by simp [step, World.obj], rfl, rfl, by simp⟩
    · exact knownOk_mono (LookupProofs.step_heap_stable w _ (by rintro _ _ _ ⟨⟩) (by rintro _ _ _ ⟨⟩)) hk k
        (List.mem_filter.mp hmem).1
  case setId h id ext =>
    refine List.forall_mem_map.mpr fun k0 hk0 => ?_
    obtain ⟨o0, ho0, hi0, he0, hn0⟩ := hk k0 hk0
    by_cases hh : k0.handle = h
    · subst hh
      simp only [step, ho0, beq_self_eq_true, if_true]
      exact ⟨_, List.getElem?_set_self (lt_of_get ho0), rfl, rfl, hn0⟩
    · rw [if_neg (by simpa using hh)]
      refine ⟨o0, ?_, hi0, he0, hn0⟩
      simp only [step]
      split
      · exact (List.getElem?_set_ne (Ne.symm hh)).trans ho0
      · exact ho0
  case renameFrame m old new =>
    refine List.forall_mem_map.mpr fun k0 hk0 => ?_
    obtain ⟨o0, ho0, hi0, he0, hn0⟩ := hk k0 hk0
    -- the entry keeps handle, identifier and names, and gains `new` if it held `old`
    generalize hk1 : (if k0.names.contains old then { k0 with names := new :: k0.names } else k0) = k1
    have hkeep : k1.handle = k0.handle ∧ k1.id = k0.id ∧ k1.ext = k0.ext ∧
        (∀ s ∈ k0.names, s ∈ k1.names) ∧ (old ∈ k0.names → new ∈ k1.names) := by
      subst hk1
      split
      · exact ⟨rfl, rfl, rfl, fun s hs => List.mem_cons_of_mem _ hs, fun _ => List.mem_cons_self⟩
      · rename_i hc
        exact ⟨rfl, rfl, rfl, fun s hs => hs, fun ho => absurd (List.contains_iff_mem.mpr ho) hc⟩
    obtain ⟨hh, hi, he, hsub, hnew⟩ := hkeep
    rw [hh, hi, he]
    simp only [step]
    split
    · rename_i x hx
      refine ⟨_, rename_get w.heap (fun h o => x.frames.contains h && o.name == old) new ho0, ?_⟩
      split
      · rename_i hc
        have hold : o0.name = old := by simpa using ((Bool.and_eq_true _ _).mp hc).2
        exact ⟨hi0, he0, hnew (hold ▸ hn0)⟩
      · exact ⟨hi0, he0, hsub _ hn0⟩
    · exact ⟨o0, ho0, hi0, he0, hsub _ hn0⟩
  -- every other operation records no edit
  all_goals exact knownOk_mono (LookupProofs.step_heap_stable w _ (by rintro _ _ _ ⟨⟩) (by rintro _ _ _ ⟨⟩)) hk

theorem snapMat_true {w : World} {m : Nat} {sn : List Spec.FrameSnap}
    (h : snapMat w m = some sn) : SnapTrue w sn := by
  unfold snapMat at h
  obtain ⟨x, _, rfl⟩ := Option.map_eq_some_iff.mp h
  intro f hf
  obtain ⟨h0, _, hf⟩ := List.mem_filterMap.mp hf
  obtain ⟨o, ho, rfl⟩ := Option.map_eq_some_iff.mp hf
  exact ⟨o, ho, rfl, rfl, rfl⟩

theorem snapWith_true (w : World) (op : LOp) {sn : List Spec.FrameSnap}
    (h : snapWith w (step w op).1 op = some sn) : SnapTrue (step w op).1 sn := by
  cases op
  -- a snapshot taken before a lookup: the lookup leaves the objects where they are
  case byId | byName | byPgn =>
    exact snapTrue_mono (LookupProofs.step_heap_stable w _ (by rintro _ _ _ ⟨⟩) (by rintro _ _ _ ⟨⟩))
      (snapMat_true h)
  case copyFrame | merge | deepcopy | loadMatrix => exact snapMat_true h
  all_goals cases h

end CanVerif.LookupIndep
