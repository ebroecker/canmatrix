import CanVerif.Model.Bulk
import CanVerif.Proofs.FirstMatch
/-!
# Bulk delete / rename (C17): closed forms of the loops

Every operation of `Model/Bulk` is a loop that looks objects up and edits them one at a time; the
lemmas here give the `filter` or `map` it amounts to, which is what the C17 theorems state.
-/
namespace CanVerif.Bulk
open CanVerif

theorem foldl_delKey (ns : List Name) (d : List (Name × Name)) :
    ns.foldl delKey d = d.filter fun kv => !ns.contains kv.1 := by
  induction ns generalizing d with
  | nil => exact (List.filter_eq_self.mpr fun _ _ => rfl).symm
  | cons n t ih =>
    rw [List.foldl_cons, ih, delKey, List.filter_filter]
    refine List.filter_congr fun kv _ => ?_
    rw [List.contains_cons, Bool.not_or, Bool.and_comm]
    rfl

theorem erase_find_eq_filter (n : Name) (l : List BFrame) (hu : (l.map (·.name)).Nodup) :
    (match l.find? (·.name == n) with
      | some f => l.erase f
      | none => l) = l.filter fun f => f.name != n := by
  induction l with
  | nil => rfl
  | cons a t ih =>
    by_cases h : a.name = n
    · have : t.filter (fun f => f.name != n) = t :=
        List.filter_eq_self.mpr fun x hx => by simpa [← h] using key_ne_of_nodup hu hx
      simp [h, this]
    · rw [List.find?_cons_of_neg (by simpa using h), List.filter_cons_of_pos (by simpa using h),
        ← ih (List.nodup_cons.mp hu).2]
      split
      · rename_i f hf
        have : a ≠ f := fun e => h (e ▸ by simpa using List.find?_some hf)
        rw [List.erase_cons_tail (by simpa using this)]
      · rfl

theorem renameFirst_eq_map (old new : Name) (l : List BSig) (hu : (l.map (·.name)).Nodup) :
    renameFirst old new l = l.map fun s => { s with name := if s.name = old then new else s.name } := by
  have (l : List BSig) : renameFirst old new l = rewriteFirst (·.name == old) ({ · with name := new }) l := by
    induction l with
    | nil => rfl
    | cons s t ih => rw [renameFirst, ih, rewriteFirst]
  rw [this, rewriteFirst_eq_map BSig.name old _ l hu]
  refine List.map_congr_left fun s _ => ?_
  by_cases h : s.name = old <;> simp [h]

theorem renamePrefix_eq (old new name : Name) :
    renamePrefix old new name
      = if old.dropLast <+: name then new ++ name.drop old.dropLast.length else name := by
  simp only [renamePrefix, take_beq_eq_isPrefixOf, List.isPrefixOf_iff_prefix]

theorem renameSuffix_eq (old new name : Name) (h : old.drop 1 ≠ []) :
    renameSuffix old new name
      = if old.drop 1 <:+ name then name.take (name.length - (old.drop 1).length) ++ new
        else name := by
  simp only [renameSuffix, drop_beq_eq_isSuffixOf, List.isSuffixOf_iff_suffix]
  rw [if_neg (by rwa [beq_iff_eq, List.length_eq_zero_iff])]

theorem drop_one_ne_nil {old : Name} (h1 : old.getLast? ≠ some '*') (h2 : old.head? = some '*') :
    old.drop 1 ≠ [] := by
  cases old with
  | nil => cases h2
  | cons a t =>
    obtain rfl : a = '*' := by simpa using h2
    intro e
    rw [List.drop_one, List.tail_cons] at e
    exact h1 (e ▸ rfl)

theorem eq_star {old : Name} (h1 : old.getLast? = some '*') (h2 : old.head? = some '*')
    (hstar : (old.filter (· == '*')).length ≤ 1) : old = ['*'] := by
  cases old with
  | nil => cases h2
  | cons a t =>
    obtain rfl : a = '*' := by simpa using h2
    cases t with
    | nil => rfl
    | cons c u =>
      have hm : '*' ∈ (c :: u).filter (· == '*') :=
        List.mem_filter.mpr ⟨List.mem_of_getLast? (by simpa [List.getLast?_cons_cons] using h1), rfl⟩
      have := List.length_pos_of_mem hm
      rw [List.filter_cons_of_pos rfl, List.length_cons] at hstar
      omega

end CanVerif.Bulk
