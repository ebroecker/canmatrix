import CanVerif.Model.Dec
import CanVerif.Spec.Scaling
/-!
Model/Dec.lean's decimal arithmetic, for C04 and C15.  `nd c` is the number of decimal digits of `c` (by `ndAux`, with fuel);
all that is used of it is `nd_le_iff`.  `fix` rounds to `PREC` = 28 digits and is the identity on shorter coefficients
(`fix_of_nd_le`): every exactness result reduces to that case.  `reduceExact` strips trailing zeros of an exact quotient
while the exponent stays below the ideal exponent `a.exp - b.exp` of the division.
-/
namespace CanVerif

theorem ndAux_pos (fuel c : Nat) : 1 ≤ ndAux fuel c := by
  cases fuel with
  | zero => simp [ndAux]
  | succ f => unfold ndAux; split <;> omega

theorem ndAux_le_iff (fuel : Nat) : ∀ c n, c ≤ fuel → 1 ≤ n → (ndAux fuel c ≤ n ↔ c < 10 ^ n) := by
  induction fuel with
  | zero =>
    intro c n hc hn
    obtain rfl : c = 0 := by omega
    simp [ndAux, hn, Nat.pow_pos]
  | succ f ih =>
    intro c n hc hn
    unfold ndAux
    split
    · -- `c < 10`: one digit
      rename_i h10
      have : 10 ^ 1 ≤ 10 ^ n := Nat.pow_le_pow_right (by omega) hn
      exact ⟨fun _ => by omega, fun _ => hn⟩
    · -- `c ≥ 10`: one digit more than `c / 10`
      rename_i h10
      have hpos := ndAux_pos f (c / 10)
      cases n with
      | zero => omega
      | succ m =>
        cases m with
        | zero =>  -- `n = 1`: both sides are false
          constructor
          · intro h; omega
          · intro h; simp at h; omega
        | succ k =>  -- `n ≥ 2`: the induction hypothesis for `c / 10`
          have hle : c / 10 ≤ f := by omega
          have := ih (c / 10) (k + 1) hle (by omega)
          rw [Nat.add_le_add_iff_right, this, Nat.div_lt_iff_lt_mul (by omega), @Nat.pow_succ 10 (k + 1)]

theorem nd_pos (c : Nat) : 1 ≤ nd c := ndAux_pos c c

theorem nd_le_iff (c n : Nat) (hn : 1 ≤ n) : nd c ≤ n ↔ c < 10 ^ n :=
  ndAux_le_iff c c n (Nat.le_refl c) hn

theorem lt_pow_nd (c : Nat) : c < 10 ^ nd c :=
  (nd_le_iff c (nd c) (nd_pos c)).1 (Nat.le_refl _)

theorem nd_mono {a b : Nat} (h : a ≤ b) : nd a ≤ nd b :=
  (nd_le_iff a (nd b) (nd_pos b)).2 (Nat.lt_of_le_of_lt h (lt_pow_nd b))

theorem lt_nd_iff (c k : Nat) (hc : c ≠ 0) : k < nd c ↔ 10 ^ k ≤ c := by
  cases k with
  | zero => have := nd_pos c; omega
  | succ j => rw [← Nat.not_le, nd_le_iff c (j + 1) (by omega), Nat.not_lt]

namespace Dec

theorem fix_of_nd_le (neg : Bool) (c : Nat) (e : Int) (h : nd c ≤ PREC) : fix neg c e = ⟨neg, c, e⟩ := by
  unfold fix
  by_cases hc : c = 0
  · rw [if_pos hc, hc]
  · rw [if_neg hc]; exact if_pos h

/-- a remainder of zero is below half: the half-even step keeps the quotient -/
theorem round_rem_zero (q k : Nat) :
    (if 0 > 5 * 10 ^ k || ((0 : Nat) == 5 * 10 ^ k && q % 2 == 1) then q + 1 else q) = q := by
  have : 0 < 5 * 10 ^ k := Nat.mul_pos (by omega) (Nat.pow_pos (by omega))
  have h : ((0 : Nat) == 5 * 10 ^ k) = false := beq_false_of_ne (by omega)
  rw [h, if_neg (by simp)]

theorem fix_of_dvd (neg : Bool) (c : Nat) (e : Int) (hc : c ≠ 0) (hlong : PREC < nd c)
    (hdvd : 10 ^ (nd c - PREC) ∣ c) :
    fix neg c e = ⟨neg, c / 10 ^ (nd c - PREC), e + ((nd c - PREC : Nat) : Int)⟩ := by
  have hq : ¬ nd (c / 10 ^ (nd c - PREC)) > PREC := by
    rw [Nat.not_lt, nd_le_iff _ _ (by decide), Nat.div_lt_iff_lt_mul (Nat.pow_pos (by omega)), ← Nat.pow_add]
    have : PREC + (nd c - PREC) = nd c := by omega
    rw [this]; exact lt_pow_nd c
  simp only [fix, if_neg hc]
  rw [if_neg (by omega), Nat.mod_eq_zero_of_dvd hdvd, round_rem_zero, if_neg hq]

/-- the signed coefficient: the number `d` denotes is `smant d · 10^d.exp` (`C04.exOf d = ⟨smant d, d.exp⟩`, Props/C04.lean) -/
def smant (d : Dec) : Int := if d.neg then -(d.coeff : Int) else (d.coeff : Int)

theorem aligned_eq (a : Dec) (e : Int) : aligned a e = smant a * (10 : Int) ^ (a.exp - e).toNat := by
  unfold aligned smant
  cases a.neg <;> simp [Int.neg_mul]

theorem natAbs_smant (a : Dec) : (smant a).natAbs = a.coeff := by
  unfold smant; cases a.neg <;> simp

theorem add_spec (a b : Dec)
    (h : nd (aligned a (min a.exp b.exp) + aligned b (min a.exp b.exp)).natAbs ≤ PREC) :
    (add a b).exp = min a.exp b.exp ∧
    smant (add a b) = aligned a (min a.exp b.exp) + aligned b (min a.exp b.exp) := by
  simp only [add]
  split
  · rename_i hs
    rw [fix_of_nd_le _ _ _ (by decide), hs]
    simp [smant]
  · rename_i hs
    rw [fix_of_nd_le _ _ _ h]
    simp only [smant, true_and]
    split
    · rename_i hneg; simp at hneg; omega
    · rename_i hneg; simp at hneg; omega

theorem div_zero_coeff (a b : Dec) (h : a.coeff = 0) : div a b = ⟨a.neg != b.neg, 0, a.exp - b.exp⟩ := by
  unfold div; simp [h]

theorem reduceExact_step (f m : Nat) (e ideal : Int) (hm : m ≠ 0) (h : e < ideal) :
    reduceExact (f + 1) (m * 10) e ideal = reduceExact f m (e + 1) ideal := by
  have hne : m * 10 ≠ 0 := Nat.mul_ne_zero hm (by omega)
  rw [reduceExact]
  simp only [h, decide_true, Nat.mul_mod_left, beq_self_eq_true, Bool.and_self]
  rw [Nat.mul_div_cancel _ (by omega)]
  simp only [Bool.true_and, bne_iff_ne, ne_eq, hne, not_false_eq_true, if_true]

theorem reduceExact_strip (k : Nat) : ∀ (f n : Nat) (e ideal : Int), n ≠ 0 → e + (k : Int) ≤ ideal →
    reduceExact (f + k) (n * 10 ^ k) e ideal = reduceExact f n (e + (k : Int)) ideal := by
  induction k with
  | zero => intro f n e ideal _ _; simp
  | succ k ih =>
    intro f n e ideal hn hid
    have hne : n * 10 ^ k ≠ 0 := Nat.mul_ne_zero hn (Nat.ne_of_gt (Nat.pow_pos (by omega)))
    rw [Nat.pow_succ, ← Nat.mul_assoc, ← Nat.add_assoc, reduceExact_step _ _ e ideal hne (by omega),
      ih f n (e + 1) ideal hn (by omega)]
    congr 1
    omega

theorem reduceExact_value : ∀ (fuel q : Nat) (e ideal : Int), e ≤ ideal →
    ∃ k : Nat, (reduceExact fuel q e ideal).1 * 10 ^ k = q ∧ (reduceExact fuel q e ideal).2 = e + (k : Int) ∧
      e + (k : Int) ≤ ideal := by
  intro fuel
  induction fuel with
  | zero =>
    intro q e ideal he
    exact ⟨0, by simp [reduceExact], by simp [reduceExact], by simpa using he⟩
  | succ f ih =>
    intro q e ideal he
    rw [reduceExact]
    split
    · rename_i hc
      simp only [Bool.and_eq_true, decide_eq_true_eq, beq_iff_eq, bne_iff_ne, ne_eq] at hc
      obtain ⟨k, h1, h2, h3⟩ := ih (q / 10) (e + 1) ideal (by omega)
      refine ⟨k + 1, ?_, ?_, ?_⟩
      · rw [Nat.pow_succ, ← Nat.mul_assoc, h1]
        omega
      · rw [h2]; omega
      · omega
    · exact ⟨0, by simp, by simp, by simpa using he⟩

/-- `j < shift`: the quotient digits fit into the shifted dividend -/
theorem div_shift_bound (ac bc q j : Nat) (ha0 : ac ≠ 0) (hq : ac * 10 ^ j = bc * q) (hqn : nd q ≤ PREC) :
    nd ac - 1 + j < nd bc + PREC := by
  have h1 : 10 ^ (nd ac - 1) ≤ ac := (lt_nd_iff ac _ ha0).1 (by have := nd_pos ac; omega)
  have h2 : bc < 10 ^ nd bc := lt_pow_nd bc
  have h3 : q < 10 ^ PREC := (nd_le_iff q PREC (by decide)).1 hqn
  have h4 : bc * q < 10 ^ nd bc * 10 ^ PREC := Nat.mul_lt_mul'' h2 h3
  have h5 : 10 ^ (nd ac - 1) * 10 ^ j ≤ ac * 10 ^ j := Nat.mul_le_mul_right _ h1
  rw [← Nat.pow_add] at h4 h5
  rw [hq] at h5
  exact (Nat.pow_lt_pow_iff_right (by omega : 1 < 10)).1 (Nat.lt_of_le_of_lt h5 h4)

theorem div_of_dvd (a b : Dec) (s Q : Nat) (h0 : a.coeff ≠ 0) (hb : b.coeff ≠ 0)
    (hs : (nd b.coeff : Int) - (nd a.coeff : Int) + (PREC : Int) + 1 = (s : Int)) (hQ : a.coeff * 10 ^ s = b.coeff * Q) :
    div a b = fix (a.neg != b.neg) (reduceExact (nd Q + 1) Q (a.exp - b.exp - (s : Int)) (a.exp - b.exp)).1
      (reduceExact (nd Q + 1) Q (a.exp - b.exp - (s : Int)) (a.exp - b.exp)).2 := by
  have hqv : a.coeff * 10 ^ s / b.coeff = Q := by
    rw [hQ, Nat.mul_div_cancel_left _ (Nat.pos_of_ne_zero hb)]
  have hrv : a.coeff * 10 ^ s % b.coeff = 0 := by
    rw [hQ, Nat.mul_mod_right]
  unfold div
  rw [if_neg h0]
  simp only [hs]
  rw [if_pos (Int.natCast_nonneg s)]
  simp only [Int.toNat_natCast, hqv, hrv, bne_self_eq_false, Bool.false_eq_true, if_false]

/-- Division with a finite decimal quotient `q · 10^-j`: the result is `q` up to trailing zeros moved into the exponent. -/
theorem div_exact_value (a b : Dec) (q j : Nat) (hb : b.coeff ≠ 0)
    (hq : a.coeff * 10 ^ j = b.coeff * q) (hqn : nd q ≤ PREC) :
    ∃ q' k : Nat, div a b = ⟨a.neg != b.neg, q', a.exp - b.exp - (j : Int) + (k : Int)⟩ ∧ q' * 10 ^ k = q ∧ k ≤ j := by
  have hpow : ∀ m : Nat, 0 < 10 ^ m := fun m => Nat.pow_pos (by omega)
  by_cases h0 : a.coeff = 0
  · have hq0 : q = 0 := by simpa [h0, hb, Nat.mul_eq_zero] using hq.symm
    refine ⟨0, j, ?_, by rw [hq0, Nat.zero_mul], Nat.le_refl j⟩
    rw [div_zero_coeff a b h0, Int.sub_add_cancel]
  · have hq0 : q ≠ 0 := fun h => by simp [h, h0, Nat.mul_eq_zero] at hq
    -- the shift is `j + d`: the shifted quotient is `q` followed by `d` zeros, which are stripped first
    obtain ⟨d, hd⟩ : ∃ d : Nat, (nd b.coeff : Int) - (nd a.coeff : Int) + (PREC : Int) + 1 = ((j + d : Nat) : Int) := by
      have := div_shift_bound a.coeff b.coeff q j h0 hq hqn
      exact ⟨nd b.coeff + PREC + 1 - nd a.coeff - j, by omega⟩
    obtain ⟨f, hf⟩ : ∃ f, nd (q * 10 ^ d) + 1 = f + d := by
      have hne : q * 10 ^ d ≠ 0 := Nat.mul_ne_zero hq0 (Nat.ne_of_gt (hpow d))
      have := (lt_nd_iff _ d hne).2 (Nat.le_mul_of_pos_left (10 ^ d) (Nat.pos_of_ne_zero hq0))
      exact ⟨nd (q * 10 ^ d) + 1 - d, by omega⟩
    rw [div_of_dvd a b (j + d) (q * 10 ^ d) h0 hb hd (by rw [Nat.pow_add, ← Nat.mul_assoc, hq, Nat.mul_assoc]), hf,
      reduceExact_strip d f q _ _ hq0 (by omega)]
    have he : a.exp - b.exp - ((j + d : Nat) : Int) + (d : Int) = a.exp - b.exp - (j : Int) := by omega
    rw [he]
    obtain ⟨k, hk1, hk2, hk3⟩ := reduceExact_value f q (a.exp - b.exp - (j : Int)) (a.exp - b.exp) (by omega)
    have hle := Nat.le_trans (Nat.le_mul_of_pos_right _ (hpow k)) (Nat.le_of_eq hk1)
    refine ⟨_, k, ?_, hk1, by omega⟩
    rw [fix_of_nd_le _ _ _ (Nat.le_trans (nd_mono hle) hqn), hk2]

theorem div_exact (a b : Dec) (N j : Nat) (hb : b.coeff ≠ 0)
    (hc : a.coeff = N * b.coeff * 10 ^ j) (he : a.exp - b.exp = -(j : Int)) (hnd : nd a.coeff ≤ PREC) :
    div a b = ⟨a.neg != b.neg, N * 10 ^ j, -(j : Int)⟩ := by
  have hle : N * 10 ^ j ≤ a.coeff := by
    rw [hc, Nat.mul_right_comm]
    exact Nat.le_mul_of_pos_right _ (Nat.pos_of_ne_zero hb)
  obtain ⟨q', k, hd, hv, hk⟩ := div_exact_value a b (N * 10 ^ j) 0 hb
    (by rw [hc, Nat.pow_zero, Nat.mul_one, Nat.mul_right_comm, Nat.mul_comm]) (Nat.le_trans (nd_mono hle) hnd)
  obtain rfl : k = 0 := by omega
  rw [hd, ← hv, he]
  simp

theorem roundInt_zero (neg : Bool) (e : Int) : roundInt ⟨neg, 0, e⟩ = 0 := by
  simp only [roundInt]
  rw [Nat.zero_mod, round_rem_zero, Nat.zero_div, Nat.zero_mul, ite_self]
  cases neg <;> rfl

theorem roundInt_shifted (neg : Bool) (N j : Nat) :
    roundInt ⟨neg, N * 10 ^ j, -(j : Int)⟩ = if neg then -(N : Int) else (N : Int) := by
  unfold roundInt
  cases j with
  | zero => simp
  | succ k =>
    have hneg : ¬ (-((k + 1 : Nat) : Int) ≥ 0) := by omega
    simp only [hneg, if_false, Int.neg_neg, Int.toNat_natCast, Nat.mul_mod_left,
      Nat.mul_div_cancel _ (Nat.pow_pos (by omega : 0 < 10)), round_rem_zero]

theorem sign_of_mul_pos (c : Nat) (n X : Int) (neg neg' : Bool) (hX : 0 < X)
    (h : (if neg then -(c : Int) else (c : Int)) = if neg' then -(n * X) else n * X) :
    (if neg != neg' then -(n.natAbs : Int) else (n.natAbs : Int)) = n := by
  have hpos : 0 < n → 0 < n * X := fun h => Int.mul_pos h hX
  have hneg : n < 0 → n * X < 0 := fun h => Int.mul_neg_of_neg_of_pos h hX
  -- four sign cases; `omega` takes `n * X` as an atom and gets its sign from `hpos`, `hneg`
  cases neg <;> cases neg' <;> simp at h ⊢ <;> omega

theorem roundInt_div_exact (a f : Dec) (n : Int) (j : Nat) (hf : f.coeff ≠ 0)
    (hm : smant a = n * smant f * (10 : Int) ^ j) (he : a.exp - f.exp = -(j : Int))
    (hnd : nd a.coeff ≤ PREC) : roundInt (div a f) = n := by
  have hcoeff : a.coeff = n.natAbs * f.coeff * 10 ^ j := by
    have := natAbs_smant a
    rw [hm, Int.natAbs_mul, Int.natAbs_mul, natAbs_smant, Int.natAbs_pow] at this
    simpa using this.symm
  rw [div_exact a f n.natAbs j hf hcoeff he hnd, roundInt_shifted]
  refine sign_of_mul_pos a.coeff n ((f.coeff : Int) * (10 : Int) ^ j) a.neg f.neg
    (Int.mul_pos (by omega) (Int.pow_pos (by omega))) ?_
  show smant a = _
  rw [hm]; unfold smant
  cases f.neg <;> simp [Int.mul_assoc, Int.neg_mul, Int.mul_neg]

end Dec

theorem Spec.Ex.add_add_neg (x y : Spec.Ex) :
    (x.add y).add y.neg = ⟨x.m * (10 : Int) ^ (x.e - min x.e y.e).toNat, min x.e y.e⟩ := by
  have he : min (min x.e y.e) y.e = min x.e y.e := by omega
  simp only [Spec.Ex.add, Spec.Ex.neg, he, Int.sub_self, Int.toNat_zero, Int.pow_zero, Int.mul_one, Int.neg_mul]
  congr 1; omega

theorem div_exact_eqv (a b : Dec) (q j : Nat) (hb : b.coeff ≠ 0)
    (hq : a.coeff * 10 ^ j = b.coeff * q) (hqn : nd q ≤ PREC) :
    Spec.Ex.eqv ⟨Dec.smant (Dec.div a b), (Dec.div a b).exp⟩
      ⟨(if a.neg != b.neg then -(q : Int) else (q : Int)), a.exp - b.exp - (j : Int)⟩ = true := by
  obtain ⟨q', k, hdiv, hval, _⟩ := Dec.div_exact_value a b q j hb hq hqn
  rw [hdiv]
  simp only [Spec.Ex.eqv, Dec.smant]
  generalize a.exp - b.exp - (j : Int) = e
  have hmin : min (e + (k : Int)) e = e := by omega
  have hk : (e + (k : Int) - e).toNat = k := by omega
  rw [hmin, hk, Int.sub_self, Int.toNat_zero, ← hval]
  cases (a.neg != b.neg) <;> simp [Int.natCast_mul, Int.neg_mul]

end CanVerif
