import CanVerif.Model.DbcTables
import CanVerif.Proofs.DbcStmt
/-!
# The statements `VAL_TABLE_` and `SIG_GROUP_` are read back as written (Props/C05e.lean)

The entries of a table come back entry by entry from the split at unescaped quotes, the members of a group from the split at blanks.
-/
namespace CanVerif.Dbc.TableProofs
open CanVerif CanVerif.Num CanVerif.Dbc CanVerif.Dbc.StmtProofs

theorem lit_vtab : "VAL_TABLE_ ".toList = ['V', 'A', 'L', '_', 'T', 'A', 'B', 'L', 'E', '_', ' '] := String.toList_ofList
theorem lit_grp : "SIG_GROUP_ ".toList = ['S', 'I', 'G', '_', 'G', 'R', 'O', 'U', 'P', '_', ' '] := String.toList_ofList
theorem lit_sq : " \"".toList = [' ', '"'] := String.toList_ofList

/-- the writer's rendering of one entry -/
def entS : Str × Str → Str := fun (k, t) => ' ' :: k ++ " \"".toList ++ escapeQuotes t ++ ['"']

/-- what `wfVt` says about one entry -/
def EntOK (e : Str × Str) : Prop := e.1 ≠ [] ∧ (∀ c ∈ e.1, IsDig c) ∧ ∀ c ∈ e.2, c ≠ '\\'

theorem pairs_cons (a b : Str) (r : List Str) :
    pairsUnescaped (a :: b :: r) = (stripWs a, unescapeQuotes b) :: pairsUnescaped r := by
  rw [pairsUnescaped]

theorem entS_cons (k t : Str) (r : List (Str × Str)) :
    ((k, t) :: r).flatMap entS = ' ' :: (k ++ ' ' :: '"' :: (escapeQuotes t ++ '"' :: r.flatMap entS)) := by
  simp only [List.flatMap_cons, entS, lit_sq, List.append_assoc, List.cons_append, List.nil_append]

/-- one entry in front of the rest of the statement, `a` being the blanks in front of its key -/
theorem entry_split (a k t rest : Str) (hk : ∀ c ∈ k, IsDig c) (ht : ∀ c ∈ t, c ≠ '\\') (ha : ∀ c ∈ a, c = ' ') :
    pairsUnescaped (escapeAwareSplit.go [] (a ++ (k ++ ' ' :: '"' :: (escapeQuotes t ++ '"' :: rest)))) =
      (k, t) :: pairsUnescaped (escapeAwareSplit.go [] rest) := by
  obtain ⟨key, hgo, hkey⟩ := ValProofs.escapeAwareSplit_go_entry a k t rest ha (hq := fun c hc => (hk c hc).ne rfl)
    (hb := fun c hc => (hk c hc).ne rfl) (hw := fun c hc => isDig_not_ws (hk c hc)) ht
  rw [hgo, pairs_cons, hkey, ValProofs.unescape_escape t]

theorem entries_split (es : List (Str × Str)) (h : ∀ e ∈ es, EntOK e) :
    pairsUnescaped (escapeAwareSplit.go [] (es.flatMap entS)) = es := by
  induction es with
  | nil => simp [ValProofs.escapeAwareSplit_go_nil, pairsUnescaped]
  | cons e r ih =>
    obtain ⟨k, t⟩ := e
    obtain ⟨_, hk, ht⟩ := h (k, t) List.mem_cons_self
    rw [entS_cons]
    exact (entry_split [' '] k t _ hk ht (by simp)).trans
      (congrArg _ (ih (fun e he => h e (List.mem_cons_of_mem _ he))))

/-- the same with the first blank taken away (it separates the name from the first key) -/
theorem entries_split_first (k t : Str) (r : List (Str × Str)) (hk : ∀ c ∈ k, IsDig c) (ht : ∀ c ∈ t, c ≠ '\\')
    (h : ∀ e ∈ r, EntOK e) :
    pairsUnescaped (escapeAwareSplit (k ++ ' ' :: '"' :: (escapeQuotes t ++ '"' :: r.flatMap entS))) = (k, t) :: r :=
  (entry_split [] k t _ hk ht (by simp)).trans (congrArg _ (entries_split r h))

theorem pairs_empty : pairsUnescaped (escapeAwareSplit []) = [] := by
  unfold escapeAwareSplit
  rw [ValProofs.escapeAwareSplit_go_nil]
  simp [pairsUnescaped]

theorem renderVt_eq (name : Str) (es : List (Str × Str)) :
    renderVt ⟨name, es⟩ = 'V' :: 'A' :: 'L' :: '_' :: 'T' :: 'A' :: 'B' :: 'L' :: 'E' :: '_' :: ' ' ::
      (name ++ (es.flatMap entS ++ ((if es.isEmpty then [' '] else []) ++ [';']))) := by
  have hf : (fun (x : Str × Str) => match x with
      | (k, t) => ' ' :: k ++ " \"".toList ++ escapeQuotes t ++ ['"']) = entS := by
    funext x; obtain ⟨a, b⟩ := x; rfl
  unfold renderVt
  simp only
  rw [hf]
  lit_chars
  simp only [List.append_assoc]
  rfl

theorem parseVt_shape (name body : Str) (hn : isIdent name = true)
    (hb : skipSp (' ' :: (body ++ [';'])) = body ++ [';']) :
    parseVt ('V' :: 'A' :: 'L' :: '_' :: 'T' :: 'A' :: 'B' :: 'L' :: 'E' :: '_' :: ' ' ::
      (name ++ ' ' :: (body ++ [';']))) = some ⟨name, pairsUnescaped (escapeAwareSplit body)⟩ := by
  obtain ⟨n, ns, rfl⟩ := List.exists_cons_of_ne_nil (isIdent_ne_nil hn)
  simp only [parseVt, lit_vtab, startsWith_cons, startsWith_nil, Bool.not_true, Bool.false_eq_true, ↓reduceIte,
    List.drop_succ_cons, List.drop_zero, tok_word n ns _ (ident_not_blank hn), hb, upto_snoc]

theorem wfVt_unpack {v : VtLine} (h : wfVt v = true) : isIdent v.name = true ∧ ∀ e ∈ v.entries, EntOK e := by
  simp only [wfVt, Bool.and_eq_true, List.all_eq_true, Bool.not_eq_true', List.isEmpty_eq_false_iff] at h
  exact ⟨h.1, fun e he => ⟨(h.2 e he).1.1, fun c hc => (isDigit_iff c).mp ((h.2 e he).1.2 c hc),
    ValProofs.wfText_no_bs e.2 (h.2 e he).2⟩⟩

theorem parseVt_renderVt (v : VtLine) (h : wfVt v = true) : parseVt (renderVt v) = some v := by
  obtain ⟨hn, he⟩ := wfVt_unpack h
  obtain ⟨name, es⟩ := v
  simp only at hn he
  rw [renderVt_eq]
  cases es with
  | nil => exact (parseVt_shape name [] hn (by decide)).trans (by rw [pairs_empty])
  | cons e r =>
    obtain ⟨k, t⟩ := e
    obtain ⟨hkne, hk, ht⟩ := he (k, t) List.mem_cons_self
    simp only at hkne hk ht
    obtain ⟨x, xs, hx⟩ := List.exists_cons_of_ne_nil hkne
    have hx0 : x ≠ ' ' := (hk x (by simp [hx])).ne rfl
    have hentries := entries_split_first k t r hk ht (fun e he' => he e (List.mem_cons_of_mem _ he'))
    rw [entS_cons]
    exact (parseVt_shape name _ hn (skipSp_blank_body _ _ x _ (by rw [hx]; rfl) hx0)).trans (by rw [hentries])

theorem splitRaw_go_members (ms : List Str) (cur : Str) (h : ∀ m ∈ ms, ∀ c ∈ m, c ≠ ' ') :
    splitRaw.go ' ' cur (ms.flatMap fun m => ' ' :: m) = cur.reverse :: ms := by
  induction ms generalizing cur with
  | nil => simp [splitRaw.go]
  | cons m ms ih =>
    have hshape : ((m :: ms).flatMap fun m => ' ' :: m) = ' ' :: (m ++ ms.flatMap fun m => ' ' :: m) := by simp
    rw [hshape, splitRaw_go_sep, splitRaw_go_append ' ' m [] _ (h m (by simp)),
      ih _ (fun x hx => h x (List.mem_cons_of_mem _ hx))]
    simp

theorem filter_idents (ms : List Str) (h : ∀ m ∈ ms, isIdent m = true) :
    (ms.map stripWs).filter (!·.isEmpty) = ms := by
  induction ms with
  | nil => rfl
  | cons m ms ih =>
    have hm := h m (by simp)
    obtain ⟨x, xs, hx⟩ := List.exists_cons_of_ne_nil (isIdent_ne_nil hm)
    rw [List.map_cons, stripWs_ident hm, List.filter_cons, if_pos (by rw [hx]; rfl),
      ih (fun y hy => h y (List.mem_cons_of_mem _ hy))]

theorem groupMembers_render (ms : List Str) (h : ∀ m ∈ ms, isIdent m = true) :
    groupMembers (ms.flatMap fun m => ' ' :: m) = ms := by
  unfold groupMembers splitRaw
  rw [splitRaw_go_members ms [] (fun m hm c hc => identChar_ne_space (isIdent_all (h m hm) c hc))]
  rw [List.reverse_nil, List.map_cons, List.filter_cons, if_neg (by decide), filter_idents ms h]

theorem renderGroup_eq (g : GroupLine) :
    renderGroup g = 'S' :: 'I' :: 'G' :: '_' :: 'G' :: 'R' :: 'O' :: 'U' :: 'P' :: '_' :: ' ' ::
      (natDigits g.frameId ++ ' ' :: (g.name ++ ' ' :: (natDigits g.groupId ++ ' ' :: ':' ::
        ((g.members.flatMap fun m => ' ' :: m) ++ [';'])))) := by
  unfold renderGroup
  lit_chars
  simp only [List.append_assoc]
  rfl

theorem wfGroup_unpack {g : GroupLine} (h : wfGroup g = true) :
    isIdent g.name = true ∧ ∀ m ∈ g.members, isIdent m = true := by
  simpa [wfGroup] using h

theorem parseGroup_renderGroup (g : GroupLine) (h : wfGroup g = true) : parseGroup (renderGroup g) = some g := by
  obtain ⟨hn, hm⟩ := wfGroup_unpack h
  obtain ⟨fid, name, gid, ms⟩ := g
  obtain ⟨d, ds, hfd, hd, hfid⟩ := natDigits_cons fid
  obtain ⟨e, es, hgd, he, hgid⟩ := natDigits_cons gid
  obtain ⟨n, ns, rfl⟩ := List.exists_cons_of_ne_nil (isIdent_ne_nil hn)
  rw [renderGroup_eq, hfd, hgd]
  simp only [parseGroup, lit_grp, startsWith_cons, startsWith_nil, Bool.not_true, Bool.false_eq_true, ↓reduceIte,
    List.drop_succ_cons, List.drop_zero, tok_word d ds _ (digits_not_blank hd),
    tok_word n ns _ (ident_not_blank hn),
    tok_word e es _ (digits_not_blank he), skipSp_blank_ne ':' _ (by decide), upto_snoc,
    hfid, hgid, Option.bind_some, Option.map_some, groupMembers_render ms hm]

end CanVerif.Dbc.TableProofs
