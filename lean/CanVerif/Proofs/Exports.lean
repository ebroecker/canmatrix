import CanVerif.Model.Exports
import CanVerif.Spec.Exports
import CanVerif.Proofs.Codec
/-! What the exporters record, in closed form.  Wireshark reads buffer `wsBuf` at offset `wsOff`; bit `i`
of that bitfield is the signal's bit of significance `i` (`ws_bit`). -/
namespace CanVerif

theorem flipI_natCast (n : Nat) : flipI (n : Int) = (flipN n : Int) := by
  unfold flipI flipN; omega

theorem dbcStartOf_eq (s : Sig) :
    dbcStartOf s = ((if s.little then s.start else flipN s.start : Nat) : Int) := by
  unfold dbcStartOf getStartbit
  cases s.little <;> simp [flipI_natCast]

theorem lsbStartOf_eq (s : Sig) (hz : 1 ≤ s.size) :
    lsbStartOf s = ((if s.little then s.start else flipN (s.start + s.size - 1) : Nat) : Int) := by
  unfold lsbStartOf getStartbit
  have e1 : ((s.start : Int) + (s.size : Int) - 1) = ((s.start + s.size - 1 : Nat) : Int) := by omega
  cases s.little <;> simp [flipI_natCast, e1]

theorem internalStartOf_eq (s : Sig) : internalStartOf s = (s.start : Int) := by
  unfold internalStartOf getStartbit
  cases s.little <;> simp

theorem csvStartOf_nonneg (fmt : String) (s : Sig) (hz : 1 ≤ s.size) : 0 ≤ csvStartOf fmt s := by
  unfold csvStartOf
  rw [dbcStartOf_eq, lsbStartOf_eq s hz, internalStartOf_eq]
  split
  · exact Int.natCast_nonneg _
  · split <;> exact Int.natCast_nonneg _

def wsBuf (s : Sig) (p : Payload) : Payload := if s.little then p.reverse else p
def wsOff (s : Sig) (n : Nat) : Nat := if s.little then n * 8 - s.start - s.size else s.start

theorem wiresharkField_eq (n : Nat) (s : Sig) :
    wiresharkField n s = (if s.little then "reversed_pdu" else "pdu", wsOff s n, s.size) := by
  unfold wiresharkField wsOff
  cases s.little <;> simp

theorem wsBuf_eq (s : Sig) (p : Payload) :
    (if (if s.little then "reversed_pdu" else "pdu") == "reversed_pdu" then p.reverse else p) = wsBuf s p := by
  unfold wsBuf
  cases s.little
  · have : ("pdu" == "reversed_pdu") = false := by decide
    simp [this]
  · simp

theorem ws_bit (s : Sig) (p : List Nat) (h : inFrame s p.length) (i : Nat) (hi : i < s.size) :
    payloadBit (wsBuf s p) (flipN (wsOff s p.length + s.size - 1 - i))
      = payloadBit p (sigAddr s.little s.start s.size i) := by
  obtain ⟨h1, h2⟩ := h
  unfold wsBuf wsOff sigAddr
  cases s.little
  · simp
  · simp only [if_true]
    have hj : p.length * 8 - s.start - s.size + s.size - 1 - i < 8 * p.length := by omega
    rw [payloadBit_reverse _ _ (flipN_lt hj), flipN_byteRev hj]
    congr 1
    omega

theorem tvb_eq_specRaw (s : Sig) (p : List Nat) (h : inFrame s p.length) :
    Spec.tvbBitfield (wsBuf s p) (wsOff s p.length) s.size = specRaw p s.little s.start s.size := by
  unfold Spec.tvbBitfield specRaw
  exact specSum_congr _ _ _ (fun i hi => ws_bit s p h i hi)

theorem tvb_one (s : Sig) (p : List Nat) (h : inFrame s p.length) :
    Spec.tvbBitfield (wsBuf s p) (wsOff s p.length) 1
      = (payloadBit p (sigAddr s.little s.start s.size (s.size - 1))).toNat := by
  have := ws_bit s p h (s.size - 1) (by have := h.2; omega)
  have e : wsOff s p.length + s.size - 1 - (s.size - 1) = wsOff s p.length := by have := h.2; omega
  rw [e] at this
  simp [Spec.tvbBitfield, specSum, this]

end CanVerif
