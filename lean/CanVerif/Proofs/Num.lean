import CanVerif.Model.Num
/-!
Rendering and parsing of numbers (Props/Num.lean, and the number tokens of the text formats): `natDigits` and
`digitsToNat`; what `strToDec` does on `[sign] digits [. digits] [exponent]`; `decToStr d` and `formatFloat d` have
that shape, with the digits and the exponent of `d`.
A primed name (`strToDec_decToStr'`) is the lemma that a Props file states once more without the prime.
-/
namespace CanVerif.Num
open CanVerif

def dch (k : Nat) : Char := Char.ofNat (48 + k)

def IsDig (c : Char) : Prop := (digitVal c).isSome = true

def AllDig (cs : List Char) : Prop := ∀ c ∈ cs, IsDig c

theorem digitVal_dch (k : Nat) (h : k < 10) : digitVal (dch k) = some k :=
  (by decide : ∀ k : Fin 10, digitVal (dch k) = some k.val) ⟨k, h⟩

theorem isDig_iff (c : Char) : IsDig c ↔ ('0' ≤ c ∧ c ≤ '9') := by
  unfold IsDig digitVal
  split <;> simp_all

theorem IsDig.ne {c d : Char} (h : IsDig c) (hd : digitVal d = none) : c ≠ d := by
  rintro rfl; rw [IsDig, hd] at h; cases h

theorem isDig_zero : IsDig '0' := by unfold IsDig; decide

theorem natDigitsAux_acc (fuel n : Nat) (acc : List Char) :
    natDigitsAux fuel n acc = natDigitsAux fuel n [] ++ acc := by
  induction fuel generalizing n acc with
  | zero => simp [natDigitsAux]
  | succ f ih =>
    simp only [natDigitsAux]
    split
    · simp
    · rw [ih (n / 10) (_ :: acc), ih (n / 10) [_]]; simp

theorem natDigitsAux_fuel2 (f1 f2 n : Nat) (h1 : n < f1) (h2 : n < f2) :
    natDigitsAux f1 n [] = natDigitsAux f2 n [] := by
  induction f1 generalizing n f2 with
  | zero => omega
  | succ f ih =>
    cases f2 with
    | zero => omega
    | succ g =>
      simp only [natDigitsAux]
      split
      · rfl
      · rw [natDigitsAux_acc, natDigitsAux_acc (fuel := g), ih g (n / 10) (by omega) (by omega)]

theorem natDigits_lt (n : Nat) (h : n < 10) : natDigits n = [dch n] := by
  simp [natDigits, natDigitsAux, h, dch, Nat.mod_eq_of_lt h]

theorem natDigits_ge (n : Nat) (h : ¬ n < 10) : natDigits n = natDigits (n / 10) ++ [dch (n % 10)] := by
  simp only [natDigits, natDigitsAux, h, if_false]
  rw [natDigitsAux_acc, natDigitsAux_fuel2 n (n / 10 + 1) (n / 10) (by omega) (by omega)]
  rfl

theorem natDigits_ne_nil (n : Nat) : natDigits n ≠ [] := by
  by_cases h : n < 10
  · simp [natDigits_lt n h]
  · simp [natDigits_ge n h]

theorem digitsToNat_snoc (cs : List Char) (c : Char) :
    digitsToNat (cs ++ [c]) = (digitsToNat cs).bind (fun v => (digitVal c).map (v * 10 + ·)) := by
  simp [digitsToNat, List.foldlM_append]

theorem digitsToNat_zero_cons (cs : List Char) : digitsToNat ('0' :: cs) = digitsToNat cs := by
  have : digitVal '0' = some 0 := by decide
  simp [digitsToNat, List.foldlM_cons, this]

theorem digitsToNat_zeros_append (k : Nat) (cs : List Char) :
    digitsToNat (List.replicate k '0' ++ cs) = digitsToNat cs := by
  induction k with
  | zero => simp
  | succ k ih => rw [List.replicate_succ, List.cons_append, digitsToNat_zero_cons, ih]

theorem digitsToNat_natDigits' (n : Nat) : digitsToNat (natDigits n) = some n := by
  induction n using Nat.strongRecOn with
  | _ n ih =>
    by_cases h : n < 10
    · rw [natDigits_lt n h]
      simp [digitsToNat, digitVal_dch n h]
    · rw [natDigits_ge n h, digitsToNat_snoc, ih (n / 10) (by omega), digitVal_dch _ (by omega)]
      -- `n / 10 * 10 + n % 10 = n`
      simp; omega

theorem digitsToNat_some_of_allDig (cs : List Char) (h : AllDig cs) : ∃ n, digitsToNat cs = some n := by
  unfold digitsToNat
  generalize 0 = acc
  induction cs generalizing acc with
  | nil => exact ⟨acc, rfl⟩
  | cons a t ih =>
    obtain ⟨v, hv⟩ := Option.isSome_iff_exists.mp (h a (by simp))
    obtain ⟨n, hn⟩ := ih (fun c hc => h c (by simp [hc])) (acc * 10 + v)
    exact ⟨n, by simp [List.foldlM_cons, hv, hn]⟩

theorem allDig_of_digitsToNat {cs : List Char} {n : Nat} (h : digitsToNat cs = some n) : AllDig cs := by
  unfold digitsToNat at h
  generalize 0 = acc at h
  induction cs generalizing acc with
  | nil => intro c hc; cases hc
  | cons a t ih =>
    rw [List.foldlM_cons] at h
    obtain ⟨b, hb, h⟩ := Option.bind_eq_some_iff.mp h
    obtain ⟨v, hd, _⟩ := Option.map_eq_some_iff.mp hb
    exact List.forall_mem_cons.mpr ⟨by rw [IsDig, hd]; rfl, ih _ h⟩

theorem natDigits_allDig (n : Nat) : AllDig (natDigits n) :=
  allDig_of_digitsToNat (digitsToNat_natDigits' n)

/-! ## `strToDec` on `[sign] digits [. digits] [exponent]` -/

theorem span_loop_append_of (p : Char → Bool) (l1 l2 acc : List Char) (h1 : ∀ c ∈ l1, p c = true)
    (h2 : l2 = [] ∨ ∃ c t, l2 = c :: t ∧ p c = false) :
    List.span.loop p (l1 ++ l2) acc = (acc.reverse ++ l1, l2) := by
  induction l1 generalizing acc with
  | nil =>
    rcases h2 with rfl | ⟨c, t, rfl, hc⟩
    · simp [List.span.loop]
    · simp [List.span.loop, hc]
  | cons a l ih =>
    simp only [List.cons_append, List.span.loop, h1 a (by simp)]
    rw [ih (a :: acc) (fun c hc => h1 c (by simp [hc]))]
    simp

theorem span_append_of (p : Char → Bool) (l1 l2 : List Char) (h1 : ∀ c ∈ l1, p c = true)
    (h2 : l2 = [] ∨ ∃ c t, l2 = c :: t ∧ p c = false) : (l1 ++ l2).span p = (l1, l2) := by
  unfold List.span
  rw [span_loop_append_of p l1 l2 [] h1 h2]; simp

theorem span_all (p : Char → Bool) (s : List Char) (h : ∀ c ∈ s, p c = true) : s.span p = (s, []) := by
  simpa using span_append_of p s [] h (Or.inl rfl)

theorem span_ne (c : Char) (w r : List Char) (h : ∀ x ∈ w, x ≠ c) : (w ++ c :: r).span (· != c) = (w, c :: r) :=
  span_append_of _ _ _ (by intro x hx; simpa using h x hx) (Or.inr ⟨_, _, rfl, by simp⟩)

/-- `strToDec` in three pieces with the model's text - the sign (`sgn`), what follows it (`parseBody`), the exponent part
(`expoVal`) -, so that `strToDec_eq` holds by `rfl` and each piece gets lemmas of its own -/
def expoVal (expo : List Char) : Option Int :=
  match expo with
  | [] => some 0
  | _ :: '-' :: ds => if ds.isEmpty then none else (digitsToNat ds).map fun n => -(n : Int)
  | _ :: '+' :: ds => if ds.isEmpty then none else (digitsToNat ds).map fun n => (n : Int)
  | _ :: ds => if ds.isEmpty then none else (digitsToNat ds).map fun n => (n : Int)

def parseBody (neg : Bool) (r : List Char) : Option Dec :=
  let (mant, expo) := r.span (fun c => c != 'E' && c != 'e')
  let (ip, fp0) := mant.span (· != '.')
  let fp := fp0.drop 1
  if ip.isEmpty && fp.isEmpty then none else
  match digitsToNat (ip ++ fp) with
  | none => none
  | some c => (expoVal expo).map fun e => { neg := neg, coeff := c, exp := e - (fp.length : Int) }

def sgn (s : List Char) : Bool × List Char :=
  match s with
  | '-' :: t => (true, t)
  | '+' :: t => (false, t)
  | t => (false, t)

theorem strToDec_eq (s : List Char) : strToDec s = parseBody (sgn s).1 (sgn s).2 := rfl

theorem sgn_minus (t : List Char) : sgn ('-' :: t) = (true, t) := rfl

theorem sgn_nosign (c : Char) (t : List Char) (h1 : c ≠ '-') (h2 : c ≠ '+') :
    sgn (c :: t) = (false, c :: t) := by
  unfold sgn
  split <;> simp_all

theorem expoVal_neg (x : Char) (ds : List Char) (hne : ds ≠ []) :
    expoVal (x :: '-' :: ds) = (digitsToNat ds).map fun n => -(n : Int) := by
  simp [expoVal, hne]

theorem expoVal_plus (x : Char) (ds : List Char) (hne : ds ≠ []) :
    expoVal (x :: '+' :: ds) = (digitsToNat ds).map fun n => (n : Int) := by
  simp [expoVal, hne]

theorem expoVal_pos (x : Char) (ds : List Char) (hne : ds ≠ []) (hd : AllDig ds) :
    expoVal (x :: ds) = (digitsToNat ds).map fun n => (n : Int) := by
  obtain ⟨a, t, rfl⟩ := List.exists_cons_of_ne_nil hne
  have ha : IsDig a := hd a (by simp)
  unfold expoVal
  -- the first character after `x` is the digit `a`, so neither sign: only the last arm of `expoVal` applies
  split
  · rename_i hnil; cases hnil
  · rename_i hminus; injection hminus with _ hminus; injection hminus with hminus _; exact absurd hminus (ha.ne rfl)
  · rename_i hplus; injection hplus with _ hplus; injection hplus with hplus _; exact absurd hplus (ha.ne rfl)
  · rename_i hrest; injection hrest with _ hrest; subst hrest; simp

def dotOpt : Option (List Char) → List Char
  | some f => '.' :: f
  | none => []

theorem forall_mem_mant {P : Char → Prop} (hd : ∀ c, IsDig c → P c) (hdot : P '.') {ip : List Char}
    {fp : Option (List Char)} (hip : AllDig ip) (hfp : AllDig (fp.getD [])) : ∀ c ∈ ip ++ dotOpt fp, P c := by
  refine List.forall_mem_append.mpr ⟨fun c hc => hd c (hip c hc), ?_⟩
  cases fp with
  | none => exact fun _ h => nomatch h
  | some f => exact List.forall_mem_cons.mpr ⟨hdot, fun c hc => hd c (hfp c hc)⟩

theorem parseBody_gen (neg : Bool) (ip : List Char) (fp : Option (List Char)) (expo : List Char) (c : Nat) (e : Int)
    (hip : AllDig ip) (hfp : AllDig (fp.getD [])) (hne : ¬ (ip = [] ∧ fp.getD [] = []))
    (hc : digitsToNat (ip ++ fp.getD []) = some c)
    (hex : expo = [] ∨ ∃ x t, expo = x :: t ∧ (x = 'E' ∨ x = 'e')) (he : expoVal expo = some e) :
    parseBody neg (ip ++ dotOpt fp ++ expo) = some ⟨neg, c, e - ((fp.getD []).length : Int)⟩ := by
  have h1 : (ip ++ dotOpt fp ++ expo).span (fun c => c != 'E' && c != 'e') = (ip ++ dotOpt fp, expo) := by
    apply span_append_of
    · exact forall_mem_mant (fun x hx => by simp [hx.ne (d := 'E') rfl, hx.ne (d := 'e') rfl]) (by decide) hip hfp
    · rcases hex with rfl | ⟨x, t, rfl, rfl | rfl⟩
      · exact Or.inl rfl
      · exact Or.inr ⟨_, _, rfl, by decide⟩
      · exact Or.inr ⟨_, _, rfl, by decide⟩
  have h2 : (ip ++ dotOpt fp).span (· != '.') = (ip, dotOpt fp) := by
    apply span_append_of
    · exact fun x hx => by simpa using (hip x hx).ne (d := '.') rfl
    · cases fp with
      | none => exact Or.inl rfl
      | some f => exact Or.inr ⟨_, _, rfl, by decide⟩
  have h3 : (dotOpt fp).drop 1 = fp.getD [] := by cases fp <;> rfl
  have h4 : (ip.isEmpty && (fp.getD []).isEmpty) = false := by simpa [List.isEmpty_iff] using hne
  unfold parseBody
  simp only [h1, h2, h3, h4, hc, he, Bool.false_eq_true, if_false]
  rfl

def signText (neg plus : Bool) : List Char := if neg then ['-'] else if plus then ['+'] else []

theorem strToDec_parts (neg plus : Bool) (ip : List Char) (fp : Option (List Char)) (expo : List Char) (c : Nat) (e : Int)
    (hip : AllDig ip) (hfp : AllDig (fp.getD [])) (hne : ¬ (ip = [] ∧ fp.getD [] = []))
    (hc : digitsToNat (ip ++ fp.getD []) = some c)
    (hex : expo = [] ∨ ∃ x t, expo = x :: t ∧ (x = 'E' ∨ x = 'e')) (he : expoVal expo = some e) :
    strToDec (signText neg plus ++ (ip ++ dotOpt fp ++ expo)) = some ⟨neg, c, e - ((fp.getD []).length : Int)⟩ := by
  have hbody := fun b => parseBody_gen b ip fp expo c e hip hfp hne hc hex he
  rw [strToDec_eq]
  cases neg with
  | true => exact hbody true
  | false =>
    cases plus with
    | true => exact hbody false
    | false =>
      -- no sign: the first character is a digit or the point
      obtain ⟨x, t, hx, h1, h2⟩ : ∃ x t, ip ++ dotOpt fp ++ expo = x :: t ∧ x ≠ '-' ∧ x ≠ '+' := by
        cases ip with
        | cons a t => exact ⟨a, _, rfl, (hip a (by simp)).ne rfl, (hip a (by simp)).ne rfl⟩
        | nil =>
          cases fp with
          | none => exact absurd ⟨rfl, rfl⟩ hne
          | some f => exact ⟨'.', _, rfl, by decide, by decide⟩
      show parseBody (sgn (ip ++ dotOpt fp ++ expo)).1 (sgn (ip ++ dotOpt fp ++ expo)).2 = _
      rw [hx, sgn_nosign x t h1 h2, ← hx]
      exact hbody false

theorem forall_mem_parts {P : Char → Prop} (hd : ∀ c, IsDig c → P c) (hm : P '-') (hp : P '+') (hdot : P '.')
    (neg plus : Bool) {ip : List Char} {fp : Option (List Char)} {expo : List Char}
    (hip : AllDig ip) (hfp : AllDig (fp.getD [])) (hex : ∀ c ∈ expo, P c) :
    ∀ c ∈ signText neg plus ++ (ip ++ dotOpt fp ++ expo), P c := by
  refine List.forall_mem_append.mpr ⟨?_, List.forall_mem_append.mpr ⟨forall_mem_mant hd hdot hip hfp, hex⟩⟩
  unfold signText
  split
  · exact List.forall_mem_singleton.mpr hm
  · split
    · exact List.forall_mem_singleton.mpr hp
    · exact fun _ h => nomatch h

/-- the exponent part as `decToStr` and `formatFloat` write it (`E`, sign, digits); the number texts of C15 (`e`, no sign) go
through `expoVal` directly -/
def ExpoOK (expo : List Char) (e : Int) : Prop :=
  (expo = [] ∧ e = 0) ∨ ∃ sg ds n, expo = 'E' :: sg :: ds ∧ ds ≠ [] ∧ digitsToNat ds = some n ∧
    ((sg = '-' ∧ e = -(n : Int)) ∨ (sg = '+' ∧ e = (n : Int)))

theorem expoVal_of_ok {expo : List Char} {e : Int} (h : ExpoOK expo e) : expoVal expo = some e := by
  rcases h with ⟨rfl, rfl⟩ | ⟨sg, ds, n, rfl, hds, hn, ⟨rfl, rfl⟩ | ⟨rfl, rfl⟩⟩
  · rfl
  · rw [expoVal_neg _ _ hds, hn]; rfl
  · rw [expoVal_plus _ _ hds, hn]; rfl

/-- fraction and sign as `decToStr` writes them: no point without digits after it, no `+`.  `signText`, `dotOpt` are the
general forms (any number text); `shape_eq_parts` leads from these to those. -/
def dotStr (fp : List Char) : List Char := if fp = [] then [] else '.' :: fp

def signStr (b : Bool) : List Char := if b then ['-'] else []

theorem ExpoOK.head {expo : List Char} {e : Int} (h : ExpoOK expo e) :
    expo = [] ∨ ∃ x t, expo = x :: t ∧ (x = 'E' ∨ x = 'e') := by
  rcases h with ⟨rfl, _⟩ | ⟨sg, ds, n, rfl, _⟩
  · exact Or.inl rfl
  · exact Or.inr ⟨_, _, rfl, Or.inl rfl⟩

def fracOpt (fp : List Char) : Option (List Char) := if fp = [] then none else some fp

theorem fracOpt_getD (fp : List Char) : (fracOpt fp).getD [] = fp := by
  unfold fracOpt
  split <;> simp [*]

theorem shape_eq_parts (neg : Bool) (ip fp expo : List Char) :
    signStr neg ++ ip ++ dotStr fp ++ expo = signText neg false ++ (ip ++ dotOpt (fracOpt fp) ++ expo) := by
  have hs : signStr neg = signText neg false := by cases neg <;> rfl
  have hd : dotStr fp = dotOpt (fracOpt fp) := by unfold dotStr fracOpt; split <;> rfl
  rw [hs, hd, List.append_assoc, List.append_assoc, List.append_assoc]

/-- `strToDec_parts` for a rendered number, in the form in which `decToStr_shape` and `formatFloat_shape` deliver it -/
theorem strToDec_shape (neg : Bool) (ip fp expo : List Char) (c : Nat) (e : Int)
    (hip : AllDig ip) (hfp : AllDig fp) (hne : ip ≠ []) (hc : digitsToNat (ip ++ fp) = some c)
    (he : ExpoOK expo e) :
    strToDec (signStr neg ++ ip ++ dotStr fp ++ expo) = some ⟨neg, c, e - fp.length⟩ := by
  have h := strToDec_parts neg false ip (fracOpt fp) expo c e
  rw [fracOpt_getD] at h
  rw [shape_eq_parts]
  exact h hip hfp (fun h => hne h.1) hc he.head (expoVal_of_ok he)

/-! ## the shape of `decToStr d` -/

def expStr (e : Int) : List Char :=
  if e = 0 then [] else 'E' :: (if e < 0 then '-' else '+') :: natDigits e.natAbs

theorem expoOK_pad (e : Int) (k : Nat) :
    ExpoOK ('E' :: (if e < 0 then '-' else '+') :: (List.replicate k '0' ++ natDigits e.natAbs)) e := by
  refine Or.inr ⟨_, _, e.natAbs, rfl, ?_, ?_, ?_⟩
  · exact fun h => natDigits_ne_nil _ (List.append_eq_nil_iff.mp h).2
  · rw [digitsToNat_zeros_append, digitsToNat_natDigits']
  · by_cases hneg : e < 0
    · left; simp [hneg]; omega
    · right; simp [hneg]; omega

theorem expStr_of_ne {e : Int} (he : e ≠ 0) :
    expStr e = 'E' :: (if e < 0 then '-' else '+') :: natDigits e.natAbs := if_neg he

theorem expoOK_expStr (e : Int) : ExpoOK (expStr e) e := by
  by_cases h0 : e = 0
  · exact Or.inl ⟨if_pos h0, h0⟩
  · rw [expStr_of_ne h0]; exact expoOK_pad e 0

/-- `hz`: the branch of `decToStr` that pads with zeros never pads, the point stands at `exp + length ≤ length` or at 1 -/
theorem body_shape (digits : List Char) (dotplace : Int) (n : Nat) (hne : digits ≠ [])
    (hall : AllDig digits) (hval : digitsToNat digits = some n)
    (hz : dotplace ≥ (digits.length : Int) → dotplace = digits.length) :
    ∃ ip fp, AllDig ip ∧ AllDig fp ∧ ip ≠ [] ∧ digitsToNat (ip ++ fp) = some n ∧
      (fp.length : Int) = digits.length - dotplace ∧
      (if dotplace ≤ 0 then '0' :: '.' :: (List.replicate (-dotplace).toNat '0' ++ digits)
       else if dotplace ≥ (digits.length : Int) then digits ++ List.replicate (dotplace - digits.length).toNat '0'
       else digits.take dotplace.toNat ++ '.' :: digits.drop dotplace.toNat) = ip ++ dotStr fp := by
  by_cases h1 : dotplace ≤ 0
  · refine ⟨['0'], List.replicate (-dotplace).toNat '0' ++ digits, ?_, ?_, by simp, ?_, ?_, ?_⟩
    · exact List.forall_mem_singleton.mpr isDig_zero
    · exact List.forall_mem_append.mpr ⟨fun c hc => (List.mem_replicate.mp hc).2 ▸ isDig_zero, hall⟩
    · rw [List.singleton_append, digitsToNat_zero_cons, digitsToNat_zeros_append, hval]
    · simp; omega
    · simp [h1, dotStr, hne]
  · by_cases h2 : dotplace ≥ (digits.length : Int)
    · have hd := hz h2
      refine ⟨digits, [], hall, (fun _ h => nomatch h), hne, by simpa using hval, by simp; omega, ?_⟩
      rw [if_neg h1, if_pos h2]
      simp [dotStr, hd]
    · refine ⟨digits.take dotplace.toNat, digits.drop dotplace.toNat, ?_, ?_, ?_, ?_, ?_, ?_⟩
      · intro c hc; exact hall c (List.mem_of_mem_take hc)
      · intro c hc; exact hall c (List.mem_of_mem_drop hc)
      · exact fun h => (List.take_eq_nil_iff.mp h).elim (by omega) hne
      · rw [List.take_append_drop]; exact hval
      · simp; omega
      · have : digits.drop dotplace.toNat ≠ [] := fun h => by have := List.drop_eq_nil_iff.mp h; omega
        simp [h1, h2, dotStr, this]

theorem decToStr_shape (d : Dec) : ∃ ip fp e, AllDig ip ∧ AllDig fp ∧ ip ≠ [] ∧
    digitsToNat (ip ++ fp) = some d.coeff ∧ e - (fp.length : Int) = d.exp ∧
    decToStr d = signStr d.neg ++ ip ++ dotStr fp ++ expStr e := by
  have hne := natDigits_ne_nil d.coeff
  have hlen : 0 < (natDigits d.coeff).length := List.length_pos_iff.mpr hne
  obtain ⟨dp, hdp⟩ : ∃ dp : Int, dp = if d.exp ≤ 0 ∧ d.exp + ((natDigits d.coeff).length : Int) > -6
      then d.exp + ((natDigits d.coeff).length : Int) else 1 := ⟨_, rfl⟩
  have hz : dp ≥ ((natDigits d.coeff).length : Int) → dp = (natDigits d.coeff).length := by
    -- `dp` is `d.exp + length` with `d.exp ≤ 0`, or 1 with `1 ≤ length`
    rw [hdp]; split <;> omega
  obtain ⟨ip, fp, h1, h2, h3, h4, h5, h6⟩ := body_shape (natDigits d.coeff) dp
    d.coeff hne (natDigits_allDig _) (digitsToNat_natDigits' _) hz
  refine ⟨ip, fp, d.exp + ((natDigits d.coeff).length : Int) - dp, h1, h2, h3, h4, ?_, ?_⟩
  · rw [h5]; omega
  · unfold decToStr
    simp only []
    rw [← hdp, h6]
    simp [signStr, expStr]

theorem decToStr_split (neg : Bool) (c : Nat) (A B : List Char) (h : natDigits c = A ++ B) (hA : A ≠ []) :
    decToStr ⟨neg, c, -(B.length : Int)⟩ = signStr neg ++ A ++ dotStr B := by
  have hL : 0 < A.length := List.length_pos_iff.mpr hA
  have hlen : (((A ++ B).length : Nat) : Int) = A.length + B.length := by simp
  unfold decToStr
  simp only []
  rw [h, hlen]
  have hdp : (if -(B.length : Int) ≤ 0 ∧ -(B.length : Int) + ((A.length : Int) + B.length) > -6
      then -(B.length : Int) + ((A.length : Int) + B.length) else 1) = A.length := by
    rw [if_pos (by omega)]; omega
  rw [hdp]
  have e1 : ¬ ((A.length : Int) ≤ 0) := by omega
  have e3 : -(B.length : Int) + ((A.length : Int) + B.length) - A.length = 0 := by omega
  simp only [e1, e3, if_true, if_false, Int.toNat_natCast, List.take_left', List.drop_left', List.append_nil]
  by_cases hB : B = []
  · subst hB
    simp [signStr, dotStr]
  · have e2 : ¬ ((A.length : Int) ≥ A.length + B.length) := by
      have := List.length_pos_iff.mpr hB
      omega
    simp [e2, signStr, dotStr, hB]

theorem strToDec_decToStr' (d : Dec) : strToDec (decToStr d) = some d := by
  obtain ⟨ip, fp, e, hip, hfp, hipne, hval, hexp, hstr⟩ := decToStr_shape d
  rw [hstr, strToDec_shape d.neg ip fp (expStr e) d.coeff e hip hfp hipne hval (expoOK_expStr e), hexp]

/-! ## `formatFloat`: `.0` stripped, exponent padded -/

def padExp (s1 : List Char) : List Char :=
  match s1.span (· != 'E') with
  | (m, 'E' :: sg :: ds) => m ++ 'E' :: sg :: (List.replicate (3 - ds.length) '0' ++ ds)
  | _ => s1

/-- `s[:-2] if s.endswith('.0')` -/
def stripDot0 (s : List Char) : List Char :=
  if s.length ≥ 2 ∧ s.drop (s.length - 2) = ['.', '0'] then s.take (s.length - 2) else s

theorem formatFloat_eq (d : Dec) : formatFloat d = padExp (stripDot0 (decToStr d)) := by
  unfold formatFloat padExp stripDot0; rfl

theorem padExp_noE (s : List Char) (h : ∀ c ∈ s, c ≠ 'E') : padExp s = s := by
  simp [padExp, span_all (· != 'E') s (by intro c hc; simpa using h c hc)]

theorem padExp_E (m ds : List Char) (sg : Char) (h : ∀ c ∈ m, c ≠ 'E') :
    padExp (m ++ 'E' :: sg :: ds) = m ++ 'E' :: sg :: (List.replicate (3 - ds.length) '0' ++ ds) := by
  simp [padExp, span_ne 'E' m (sg :: ds) h]

theorem drop_suffix (pre t : List Char) (ht : 2 ≤ t.length) :
    (pre ++ t).drop ((pre ++ t).length - 2) = t.drop (t.length - 2) := by
  have : (pre ++ t).length - 2 = pre.length + (t.length - 2) := by simp; omega
  rw [this, List.drop_append]
  simp

theorem stripDot0_dot0 (s : List Char) : stripDot0 (s ++ ['.', '0']) = s := by
  rw [stripDot0, if_pos ⟨by simp, by rw [drop_suffix _ _ (by simp)]; rfl⟩, List.take_left' (by simp)]

theorem stripDot0_of_no_dot {s : List Char} (h : ∀ c ∈ s, c ≠ '.') : stripDot0 s = s :=
  if_neg fun hc => h '.' (List.mem_of_mem_drop (by rw [hc.2]; simp)) rfl

theorem signDigits_ne {x : Char} (hx : digitVal x = none) (hm : x ≠ '-') (neg : Bool) {ds : List Char} (hds : AllDig ds) :
    ∀ c ∈ signStr neg ++ ds, c ≠ x := by
  refine List.forall_mem_append.mpr ⟨?_, fun c hc => (hds c hc).ne hx⟩
  cases neg
  · exact fun _ h => nomatch h
  · exact List.forall_mem_singleton.mpr (Ne.symm hm)

theorem dotStr_ne {x : Char} (hx : digitVal x = none) (hd : x ≠ '.') {fp : List Char} (hfp : AllDig fp) :
    ∀ c ∈ dotStr fp, c ≠ x := by
  unfold dotStr
  split
  · exact fun _ h => nomatch h
  · exact List.forall_mem_cons.mpr ⟨Ne.symm hd, fun c hc => (hfp c hc).ne hx⟩

theorem not_endsDot0 (pre t : List Char) (ht : 2 ≤ t.length) (hdot : ∀ c ∈ t, c ≠ '.') :
    (pre ++ t).drop ((pre ++ t).length - 2) ≠ ['.', '0'] := by
  rw [drop_suffix _ _ ht]
  exact fun h => hdot '.' (List.mem_of_mem_drop (by rw [h]; simp)) rfl

theorem endsDot0_shape (neg : Bool) (ip fp : List Char) (e : Int)
    (hip : AllDig ip) (hfp : AllDig fp)
    (h : (signStr neg ++ ip ++ dotStr fp ++ expStr e).drop
      ((signStr neg ++ ip ++ dotStr fp ++ expStr e).length - 2) = ['.', '0']) :
    e = 0 ∧ fp = ['0'] := by
  by_cases he : e = 0
  · refine ⟨he, ?_⟩
    rw [show expStr e = [] from if_pos he, List.append_nil] at h
    match fp, hfp with
    | [], _ =>
      have hmem : '.' ∈ signStr neg ++ ip ++ dotStr [] := List.mem_of_mem_drop (by rw [h]; simp)
      rw [show dotStr [] = [] from rfl, List.append_nil] at hmem
      exact absurd rfl (signDigits_ne rfl (by decide) neg hip _ hmem)
    | [y], _ =>
      rw [show dotStr [y] = ['.', y] from rfl, drop_suffix _ _ (by simp)] at h
      simp at h; simp [h]
    | y :: z :: r, hfp =>
      rw [show dotStr (y :: z :: r) = ['.'] ++ (y :: z :: r) from rfl, ← List.append_assoc] at h
      exact absurd h (not_endsDot0 _ _ (by simp) (fun c hc => (hfp c hc).ne rfl))
  · -- the last characters are the sign and the digits of the exponent
    rw [expStr_of_ne he, List.append_cons] at h
    refine absurd h (not_endsDot0 _ _ ?_ ?_)
    · have := List.length_pos_iff.mpr (natDigits_ne_nil e.natAbs)
      simp; omega
    · exact List.forall_mem_cons.mpr ⟨by split <;> decide, fun c hc => (natDigits_allDig _ c hc).ne rfl⟩

/-- the shape of `formatFloat d`, with the coefficient and exponent it is read with: those of `d`, or, where `.0` was stripped,
a tenth of the coefficient and exponent 0 -/
theorem formatFloat_shape (d : Dec) : ∃ ip fp ex c e, AllDig ip ∧ AllDig fp ∧ ip ≠ [] ∧
    digitsToNat (ip ++ fp) = some c ∧ ExpoOK ex e ∧ formatFloat d = signStr d.neg ++ ip ++ dotStr fp ++ ex ∧
    ((c = d.coeff ∧ e - (fp.length : Int) = d.exp) ∨
      (d.exp = -1 ∧ d.coeff % 10 = 0 ∧ c = d.coeff / 10 ∧ e - (fp.length : Int) = 0)) := by
  obtain ⟨ip, fp, e, hip, hfp, hipne, hval, hexp, hstr⟩ := decToStr_shape d
  have hm0 := signDigits_ne (x := 'E') rfl (by decide) d.neg hip
  have hm := List.forall_mem_append.mpr ⟨hm0, dotStr_ne (x := 'E') rfl (by decide) hfp⟩
  rw [formatFloat_eq, hstr]
  by_cases hc : (signStr d.neg ++ ip ++ dotStr fp ++ expStr e).drop
      ((signStr d.neg ++ ip ++ dotStr fp ++ expStr e).length - 2) = ['.', '0']
  · obtain ⟨he, hfp⟩ := endsDot0_shape d.neg ip fp e hip hfp hc
    subst he hfp
    have hx : signStr d.neg ++ ip ++ dotStr ['0'] ++ expStr 0 = (signStr d.neg ++ ip) ++ ['.', '0'] := by
      simp [dotStr, expStr]
    rw [hx, stripDot0_dot0]
    rw [digitsToNat_snoc] at hval
    obtain ⟨v, hv, hval⟩ := Option.bind_eq_some_iff.mp hval
    have hval : v * 10 + 0 = d.coeff := Option.some.inj hval
    -- `hexp : 0 - ↑['0'].length = d.exp`
    have hexp' : d.exp = -1 := by simp at hexp; omega
    refine ⟨ip, [], [], v, 0, hip, ?fp, hipne, ?val, Or.inl ⟨rfl, rfl⟩, ?str, Or.inr ⟨hexp', by omega, by omega, rfl⟩⟩
    case fp => exact fun _ h => nomatch h
    case val => simpa using hv
    case str => rw [padExp_noE _ hm0]; simp [dotStr]
  · rw [stripDot0, if_neg (fun h => hc h.2)]
    by_cases he : e = 0
    · have hx : expStr e = [] := if_pos he
      rw [hx, List.append_nil, padExp_noE _ hm]
      exact ⟨ip, fp, [], d.coeff, e, hip, hfp, hipne, hval, Or.inl ⟨rfl, he⟩, by simp, Or.inl ⟨rfl, hexp⟩⟩
    · rw [expStr_of_ne he, padExp_E _ _ _ hm]
      exact ⟨ip, fp, _, d.coeff, e, hip, hfp, hipne, hval, expoOK_pad e _, rfl, Or.inl ⟨rfl, hexp⟩⟩

theorem strToDec_formatFloat' (d : Dec) :
    strToDec (formatFloat d) = some d ∨
    (d.exp = -1 ∧ d.coeff % 10 = 0 ∧ strToDec (formatFloat d) = some ⟨d.neg, d.coeff / 10, 0⟩) := by
  obtain ⟨ip, fp, ex, c, e, hip, hfp, hipne, hval, hex, hstr, hv⟩ := formatFloat_shape d
  rw [hstr, strToDec_shape d.neg ip fp ex c e hip hfp hipne hval hex]
  rcases hv with ⟨rfl, he⟩ | ⟨hx, hmod, rfl, he⟩
  · left; rw [he]
  · right; exact ⟨hx, hmod, by rw [he]⟩

theorem formatFloat_chars (d : Dec) :
    formatFloat d ≠ [] ∧ ∀ c ∈ formatFloat d, IsDig c ∨ c = '-' ∨ c = '.' ∨ c = 'E' ∨ c = '+' := by
  obtain ⟨ip, fp, ex, _, e, hip, hfp, hipne, _, hex, hstr, _⟩ := formatFloat_shape d
  refine ⟨fun hn => ?_, ?_⟩
  · simp only [hstr, List.append_eq_nil_iff] at hn
    exact hipne hn.1.1.2
  · rw [hstr, shape_eq_parts]
    refine forall_mem_parts (fun c hc => Or.inl hc) (by simp) (by simp) (by simp) _ _ hip (by rwa [fracOpt_getD]) ?_
    rcases hex with ⟨rfl, _⟩ | ⟨sg, ds, n, rfl, _, hds, hsg⟩
    · exact fun _ h => nomatch h
    · refine List.forall_mem_cons.mpr ⟨by simp, List.forall_mem_cons.mpr ⟨?_, fun c hc => Or.inl (allDig_of_digitsToNat hds c hc)⟩⟩
      rcases hsg with ⟨rfl, _⟩ | ⟨rfl, _⟩ <;> simp

end CanVerif.Num
