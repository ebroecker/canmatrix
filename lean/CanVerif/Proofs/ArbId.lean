import CanVerif.Model.ArbId
import CanVerif.Spec.J1939
/-!
# Identifier arithmetic for C09

`ArbitrationId` works with masks and shifts.  A mask of `w` ones at offset `o` is turned into
`/ 2 ^ o % 2 ^ w` once, for arbitrary `o` and `w`; with that the J1939 fields of the model are the
div/mod fields of `Spec`.  Everything about the setters and the PGN is then read off the positional
form `Spec.compose`: an identifier below `2 ^ 29` is the `compose` of its fields, digits in range
are determined by what they compose, and each setter returns a `compose` with some digits replaced.
-/
namespace CanVerif.ArbId
open Spec (compose)

theorem and_split (a b k : Nat) :
    a &&& b = ((a / 2 ^ k) &&& (b / 2 ^ k)) * 2 ^ k + ((a % 2 ^ k) &&& (b % 2 ^ k)) := by
  rw [← Nat.and_div_two_pow, ← Nat.and_mod_two_pow, Nat.mul_comm]
  exact (Nat.div_add_mod _ _).symm

theorem or_split (a b k : Nat) :
    a ||| b = ((a / 2 ^ k) ||| (b / 2 ^ k)) * 2 ^ k + ((a % 2 ^ k) ||| (b % 2 ^ k)) := by
  rw [← Nat.or_div_two_pow, ← Nat.or_mod_two_pow, Nat.mul_comm]
  exact (Nat.div_add_mod _ _).symm

theorem or_mul_add (a b k : Nat) (ha : a < 2 ^ k) : a ||| b * 2 ^ k = a + b * 2 ^ k := by
  rw [Nat.or_comm, Nat.mul_comm, ← Nat.two_pow_add_eq_or_of_lt ha b, Nat.add_comm]

theorem or_shift_add (a b k : Nat) (ha : a < 2 ^ k) : a ||| (b <<< k) = a + b * 2 ^ k := by
  rw [Nat.shiftLeft_eq]; exact or_mul_add a b k ha

/-- the mask comes as a literal `m`; `hm` is then closed by `rfl` -/
theorem and_ones (x k : Nat) {m : Nat} (hm : m + 1 = 2 ^ k) : x &&& m = x % 2 ^ k := by
  rw [← Nat.and_two_pow_sub_one_eq_mod, ← hm, Nat.add_sub_cancel]

theorem and_window (x o w : Nat) {m : Nat} (hm : m + 1 = 2 ^ w) :
    x &&& m * 2 ^ o = x / 2 ^ o % 2 ^ w * 2 ^ o := by
  rw [and_split x _ o, Nat.mul_div_cancel _ (Nat.two_pow_pos o), Nat.mul_mod_left, Nat.and_zero,
    and_ones _ w hm, Nat.add_zero]

theorem shiftRight_and_ones (x o w : Nat) {m : Nat} (hm : m + 1 = 2 ^ w) :
    x >>> o &&& m = x / 2 ^ o % 2 ^ w := by
  rw [Nat.shiftRight_eq_div_pow]; exact and_ones _ w hm

theorem mod_two_pow_split (n o w : Nat) :
    n % 2 ^ (o + w) = n / 2 ^ o % 2 ^ w * 2 ^ o + n % 2 ^ o := by
  rw [Nat.pow_add, Nat.mod_mul, Nat.mul_comm, Nat.add_comm]

theorem and_std (x : Nat) : x &&& standardMask = x % 2 ^ 11 := and_ones x 11 rfl

theorem and_ext (x : Nat) : x &&& extendedMask = x % 2 ^ 29 := and_ones x 29 rfl

theorem and_bit31 (x : Nat) : x &&& compoundExtendedMask = x / 2 ^ 31 % 2 * 2 ^ 31 :=
  and_window x 31 1 (m := 1) rfl

theorem or_bit31 (x : Nat) (h : x < 2 ^ 31) : x ||| compoundExtendedMask = x + 2 ^ 31 :=
  (or_mul_add x 1 31 h).trans (by rw [Nat.one_mul])

theorem sa_eq (id : Nat) : sa id = Spec.sa id := and_ones id 8 rfl
theorem ps_eq (id : Nat) : ps id = Spec.ps id := shiftRight_and_ones id 8 8 rfl
theorem pf_eq (id : Nat) : pf id = Spec.pf id := shiftRight_and_ones id 16 8 rfl
theorem dp_eq (id : Nat) : dp id = Spec.dp id := shiftRight_and_ones id 24 1 rfl
theorem edp_eq (id : Nat) : edp id = Spec.edp id := shiftRight_and_ones id 25 1 rfl
theorem prio_eq (id : Nat) : prio id = Spec.prio id := shiftRight_and_ones id 26 3 rfl

theorem pgnOfId_fields (id : Nat) :
    pgnOfId id = edp id * 2 ^ 17 + dp id * 2 ^ 16 + pf id * 2 ^ 8 + (if pf id ≥ 240 then ps id else 0) := by
  unfold pgnOfId pduFormat
  rw [Nat.shiftLeft_eq, Nat.shiftLeft_eq, Nat.shiftLeft_eq]
  by_cases h : pf id < 240
  · simp [h, Nat.not_le.2 h]; omega
  · simp [h, Nat.not_lt.1 h]; omega

theorem pgnOfId_eq (id : Nat) : pgnOfId id = Spec.pgn id := by
  rw [pgnOfId_fields, ps_eq, pf_eq, dp_eq, edp_eq]; rfl

abbrev InRange (p e d f s a : Nat) : Prop := p < 8 ∧ e < 2 ∧ d < 2 ∧ f < 256 ∧ s < 256 ∧ a < 256

theorem fields_lt (id : Nat) : InRange (prio id) (edp id) (dp id) (pf id) (ps id) (sa id) := by
  rw [sa_eq, ps_eq, pf_eq, dp_eq, edp_eq, prio_eq]
  unfold Spec.prio Spec.edp Spec.dp Spec.pf Spec.ps Spec.sa; omega

theorem compose_fields (id : Nat) (h : id < 2 ^ 29) :
    compose (prio id) (edp id) (dp id) (pf id) (ps id) (sa id) = id := by
  -- split off one field after the other, from the top
  have h29 : id % 2 ^ 29 = id := Nat.mod_eq_of_lt h
  have h26 : id % 2 ^ 29 = Spec.prio id * 2 ^ 26 + id % 2 ^ 26 := mod_two_pow_split id 26 3
  have h25 : id % 2 ^ 26 = Spec.edp id * 2 ^ 25 + id % 2 ^ 25 := mod_two_pow_split id 25 1
  have h24 : id % 2 ^ 25 = Spec.dp id * 2 ^ 24 + id % 2 ^ 24 := mod_two_pow_split id 24 1
  have h16 : id % 2 ^ 24 = Spec.pf id * 2 ^ 16 + id % 2 ^ 16 := mod_two_pow_split id 16 8
  have h8 : id % 2 ^ 16 = Spec.ps id * 2 ^ 8 + Spec.sa id := mod_two_pow_split id 8 8
  rw [sa_eq, ps_eq, pf_eq, dp_eq, edp_eq, prio_eq]
  unfold compose
  rw [Nat.add_assoc, Nat.add_assoc, Nat.add_assoc, Nat.add_assoc, ← h8, ← h16, ← h24, ← h25, ← h26, h29]

theorem compose_inj {p e d f s a p' e' d' f' s' a' : Nat} (h : InRange p e d f s a)
    (h' : InRange p' e' d' f' s' a') (heq : compose p e d f s a = compose p' e' d' f' s' a') :
    p = p' ∧ e = e' ∧ d = d' ∧ f = f' ∧ s = s' ∧ a = a' := by
  unfold compose at heq
  omega

/-- the digits and the fields of `n` compose the same number -/
theorem fields_of_compose {n p e d f s a : Nat} (hn : n = compose p e d f s a)
    (h : InRange p e d f s a) :
    n < 2 ^ 29 ∧ prio n = p ∧ edp n = e ∧ dp n = d ∧ pf n = f ∧ ps n = s ∧ sa n = a := by
  have hlt : n < 2 ^ 29 := by rw [hn]; unfold compose; omega
  exact ⟨hlt, compose_inj (fields_lt n) h ((compose_fields n hlt).trans hn)⟩

theorem pgn_compose {p e d f s a : Nat} (h : InRange p e d f s a) :
    pgnOfId (compose p e d f s a) = e * 2 ^ 17 + d * 2 ^ 16 + f * 2 ^ 8 + (if f ≥ 240 then s else 0) := by
  obtain ⟨_, _, he, hd, hf, hs, _⟩ := fields_of_compose rfl h
  rw [pgnOfId_fields, he, hd, hf, hs]

theorem pgn_digits (v : Nat) :
    v % 2 ^ 18 = v / 2 ^ 17 % 2 * 2 ^ 17 + v / 2 ^ 16 % 2 * 2 ^ 16 + v / 256 % 256 * 2 ^ 8 + v % 256 := by
  rw [mod_two_pow_split v 17 1, mod_two_pow_split v 16 1, mod_two_pow_split v 8 8, Nat.add_assoc,
    Nat.add_assoc]

theorem pgn_digits_lt (p v a : Nat) (hp : p < 8) (ha : a < 256) :
    InRange p (v / 2 ^ 17 % 2) (v / 2 ^ 16 % 2) (v / 256 % 256) (v % 256) a := by
  unfold InRange; omega

theorem pgn_compose_digits (p v a : Nat) (hp : p < 8) (ha : a < 256) :
    pgnOfId (compose p (v / 2 ^ 17 % 2) (v / 2 ^ 16 % 2) (v / 256 % 256) (v % 256) a) =
      if v / 256 % 256 ≥ 240 then v % 2 ^ 18 else v % 2 ^ 18 - v % 256 := by
  rw [pgn_compose (pgn_digits_lt p v a hp ha), pgn_digits v]
  split
  · rfl
  · rw [Nat.add_zero, Nat.add_sub_cancel]

theorem setPriority_id (a : ArbId) (v : Nat) (h : a.id < 2 ^ 29) :
    (a.setPriority v).id = compose (v % 8) (edp a.id) (dp a.id) (pf a.id) (ps a.id) (sa a.id) := by
  have hid := compose_fields a.id h
  have hlt := fields_lt a.id
  unfold setPriority
  simp only
  rw [and_ones _ 26 rfl, and_ones _ 3 rfl, or_shift_add _ _ 26 (Nat.mod_lt _ (by decide))]
  unfold compose at hid ⊢
  omega

theorem setSource_id (a : ArbId) (v : Nat) (h : a.id < 2 ^ 29) :
    (a.setSource v).id = compose (prio a.id) (edp a.id) (dp a.id) (pf a.id) (ps a.id) (v % 256) := by
  have hid := compose_fields a.id h
  have hlt := fields_lt a.id
  have hsa : sa a.id = a.id % 256 := sa_eq a.id
  unfold setSource
  simp only
  rw [and_window a.id 8 24 (m := 0xffffff) rfl, and_ones _ 8 rfl, Nat.or_comm,
    or_mul_add _ _ 8 (Nat.mod_lt _ (by decide))]
  unfold compose at hid ⊢
  omega

theorem setPgn_id (a : ArbId) (v : Nat) (h : a.id < 2 ^ 29) :
    (a.setPgn v).id =
      compose (prio a.id) (v / 2 ^ 17 % 2) (v / 2 ^ 16 % 2) (v / 256 % 256) (v % 256) (sa a.id) := by
  -- `0xfc0000ff` keeps bits 26.. and the low byte
  have keep : a.id &&& 0xfc0000ff = sa a.id + prio a.id * 2 ^ 26 := by
    rw [and_split _ _ 26, sa_eq, prio_eq]
    show (a.id / 2 ^ 26 &&& 63) * 2 ^ 26 + (a.id % 2 ^ 26 &&& 255) = _
    rw [and_ones _ 6 rfl, and_ones _ 8 rfl]
    unfold Spec.sa Spec.prio
    omega
  have put : (v &&& 0x3FFFF) <<< 8 &&& 0x3FFFF00 = v % 2 ^ 18 * 2 ^ 8 := by
    rw [and_ones v 18 rfl, Nat.shiftLeft_eq, and_window _ 8 18 (m := 0x3FFFF) rfl,
      Nat.mul_div_cancel _ (Nat.two_pow_pos 8), Nat.mod_mod]
  obtain ⟨lprio, _, _, _, _, lsa⟩ := fields_lt a.id
  unfold setPgn
  simp only
  -- the three parts occupy disjoint bits, so `|||` adds them
  rw [keep, put, ← or_mul_add _ _ 26 (by omega), Nat.or_assoc, Nat.or_comm (_ * 2 ^ 26), ← Nat.or_assoc,
    or_mul_add _ _ 8 lsa, or_mul_add _ _ 26 (by omega), pgn_digits]
  unfold compose
  omega

theorem pgnOfId_setPgn (a : ArbId) (v : Nat) (h : a.id < 2 ^ 29) :
    pgnOfId (a.setPgn v).id = if v / 256 % 256 ≥ 240 then v % 2 ^ 18 else v % 2 ^ 18 - v % 256 := by
  obtain ⟨lprio, _, _, _, _, lsa⟩ := fields_lt a.id
  rw [setPgn_id a v h, pgn_compose_digits _ v _ lprio lsa]

theorem validId_std (n : Nat) : Spec.validId n false = true ↔ n < 2 ^ 11 := by simp [Spec.validId]

theorem validId_ext (n : Nat) : Spec.validId n true = true ↔ n < 2 ^ 29 := by simp [Spec.validId]

theorem make_ok_iff (id : Int) (ext : Bool) (a : ArbId) :
    make id ext = .ok a ↔ (0 ≤ id ∧ Spec.validId id.toNat ext = true ∧ a = ⟨id.toNat, ext⟩) := by
  -- the mask is `2 ^ k - 1` for the width `k` of the format; it changes `n` iff `n` does not fit
  obtain ⟨k, hm, hv⟩ : ∃ k, (∀ n, n &&& (if ext then extendedMask else standardMask) = n % 2 ^ k) ∧
      ∀ n, Spec.validId n ext = decide (n < 2 ^ k) := by
    cases ext
    · exact ⟨11, and_std, fun _ => rfl⟩
    · exact ⟨29, and_ext, fun _ => rfl⟩
  unfold make
  simp only [hm, hv, decide_eq_true_eq]
  by_cases hneg : id < 0
  · simp [hneg]; omega
  · have h0 : 0 ≤ id := by omega
    by_cases hlt : id.toNat < 2 ^ k
    · simp [hneg, h0, hlt, Nat.mod_eq_of_lt hlt, eq_comm]
    · have : id.toNat ≠ id.toNat % 2 ^ k := fun h => hlt (h ▸ Nat.mod_lt _ (Nat.two_pow_pos k))
      simp [hneg, hlt, this]
theorem make_ok (n : Nat) (ext : Bool) (hv : Spec.validId n ext = true) :
    make (n : Int) ext = .ok ⟨n, ext⟩ :=
  (make_ok_iff _ _ _).2 ⟨Int.natCast_nonneg _, hv, rfl⟩

theorem fromCompound_eq (i : Nat) :
    fromCompound i = make ((i % 2 ^ 29 : Nat) : Int) (i / 2 ^ 31 % 2 != 0) := by
  unfold fromCompound
  rw [and_ext, and_bit31]
  congr 1
  cases Nat.mod_two_eq_zero_or_one (i / 2 ^ 31) with
  | inl h => rw [h]
  | inr h => rw [h]; rfl

theorem fromCompound_std (i : Nat) (h : i < 2 ^ 29) : fromCompound i = make (i : Int) false := by
  rw [fromCompound_eq, Nat.mod_eq_of_lt h, show i / 2 ^ 31 % 2 = 0 by omega]; rfl

theorem fromCompound_ext (i : Nat) (h : i < 2 ^ 29) : fromCompound (i + 2 ^ 31) = make (i : Int) true := by
  rw [fromCompound_eq, show (i + 2 ^ 31) % 2 ^ 29 = i by omega, show (i + 2 ^ 31) / 2 ^ 31 % 2 = 1 by omega]
  rfl

theorem pgnOfId_lt (id : Nat) : pgnOfId id < 2 ^ 18 := by
  have := fields_lt id
  rw [pgnOfId_fields]; split <;> omega

theorem fromPgn_ok (p : Nat) (hp : p < 2 ^ 18) : fromPgn p = .ok ⟨p <<< 8, true⟩ :=
  make_ok _ true ((validId_ext _).mpr (by rw [Nat.shiftLeft_eq]; omega))

theorem pgnOfId_shift (p : Nat) (hp : p < 2 ^ 18) :
    pgnOfId (p <<< 8) = (if p / 256 % 256 ≥ 240 then p else p / 256 * 256) := by
  have hd := pgn_digits p
  rw [Nat.mod_eq_of_lt hp] at hd
  have : p <<< 8 = compose 0 (p / 2 ^ 17 % 2) (p / 2 ^ 16 % 2) (p / 256 % 256) (p % 256) 0 := by
    rw [Nat.shiftLeft_eq]; unfold compose; omega
  rw [this, pgn_compose_digits _ _ _ (by decide) (by decide), Nat.mod_eq_of_lt hp]
  split
  · rfl
  · omega

theorem pgnOfId_shift_pgnOfId (id : Nat) : pgnOfId (pgnOfId id <<< 8) = pgnOfId id := by
  have hlt := fields_lt id
  have : pgnOfId id <<< 8 = compose 0 (edp id) (dp id) (pf id) (if pf id ≥ 240 then ps id else 0) 0 := by
    rw [Nat.shiftLeft_eq, pgnOfId_fields]; unfold compose; split <;> omega
  rw [this, pgn_compose (by split <;> omega), pgnOfId_fields id]
  split <;> rfl

end CanVerif.ArbId

namespace CanVerif
open ArbId

theorem frameByPgn_pgnOfId (frames : List FrameKey) (id : Nat) :
    frameByPgn frames (pgnOfId id) =
      .ok (frames.find? (fun f => f.aid.ext && pgnOfId f.aid.id == pgnOfId id)) := by
  unfold frameByPgn
  rw [fromPgn_ok _ (pgnOfId_lt id)]
  simp only [pgnOfId_shift_pgnOfId]

theorem eqv_iff (a b : ArbId) : a.eqv b = true ↔ a.id = b.id ∧ a.ext = b.ext := by
  simp [eqv]

/-- `CanMatrix.decode` for a 29-bit identifier in a matrix with J1939 frames (by identifier, else by
PGN) -/
theorem resolveForDecode_ext (frames : List FrameKey) (k : ArbId)
    (hj : frames.any (·.isJ1939) = true) (hk : k.ext = true) :
    ∃ r, resolveForDecode frames k = .ok r ∧
      (∀ f, r = some f → f ∈ frames ∧ f.aid.ext = true ∧ pgnOfId f.aid.id = pgnOfId k.id) ∧
      (r = none → ∀ f ∈ frames, f.aid.ext = true → pgnOfId f.aid.id ≠ pgnOfId k.id) := by
  unfold resolveForDecode
  simp only [hj, hk, Bool.not_true, Bool.false_eq_true, if_false, if_true]
  cases hfi : frameById frames k with
  | some g =>
    unfold frameById at hfi
    have hp := List.find?_some hfi
    rw [eqv_iff] at hp
    refine ⟨some g, rfl, fun f hf => ?_, fun h => nomatch h⟩
    cases hf
    exact ⟨List.mem_of_find?_eq_some hfi, hp.2.trans hk, congrArg pgnOfId hp.1⟩
  | none =>
    refine ⟨_, frameByPgn_pgnOfId frames k.id, fun f hf => ?_, fun hn f hf hext hpg => ?_⟩
    · have hp := List.find?_some hf
      simp only [Bool.and_eq_true, beq_iff_eq] at hp
      exact ⟨List.mem_of_find?_eq_some hf, hp⟩
    · exact List.find?_eq_none.mp hn f hf (by simp [hext, hpg])

end CanVerif
