import CanVerif.Proofs.DbcTok
/-!
The lexical freedom of the format (C15): a number text is read as the value it denotes; the `SG_` and `BO_` readers return
the described signal and frame whatever the spacing and the number texts.  The writer's own lines are one instance
(Proofs/DbcText.lean).
-/
namespace CanVerif.Dbc
open CanVerif CanVerif.Num

theorem allDig_of_all {s : Str} (h : s.all isDigit = true) : AllDig s :=
  fun c hc => (isDigit_iff c).mp (List.all_eq_true.mp h c hc)

theorem sgn_plus (t : Str) : sgn ('+' :: t) = (false, t) := rfl

def expOpt : Option (Bool × Bool × Str) → Str
  | some (lower, neg, ds) => (if lower then 'e' else 'E') :: (if neg then ['-'] else []) ++ ds
  | none => []

def expOptVal : Option (Bool × Bool × Str) → Option Int
  | some (_, neg, ds) => (digitsToNat ds).map fun e => if neg then -(e : Int) else (e : Int)
  | none => some 0

theorem expoVal_expOpt (ex : Option (Bool × Bool × Str))
    (h : ∀ l n ds, ex = some (l, n, ds) → ds ≠ [] ∧ AllDig ds) : expoVal (expOpt ex) = expOptVal ex := by
  match ex, h with
  | none, _ => rfl
  | some (l, n, ds), h =>
    obtain ⟨hne, hd⟩ := h l n ds rfl
    cases n with
    | true => exact expoVal_neg _ ds hne
    | false => exact expoVal_pos _ ds hne hd

theorem expOpt_head (ex : Option (Bool × Bool × Str)) :
    expOpt ex = [] ∨ ∃ x t, expOpt ex = x :: t ∧ (x = 'E' ∨ x = 'e') := by
  match ex with
  | none => exact Or.inl rfl
  | some (true, n, ds) => exact Or.inr ⟨'e', _, rfl, Or.inr rfl⟩
  | some (false, n, ds) => exact Or.inr ⟨'E', _, rfl, Or.inl rfl⟩

theorem NumText.render_eq (n : NumText) :
    n.render = signText n.neg n.plus ++ (n.ip ++ dotOpt n.fp ++ expOpt n.exp) := by
  obtain ⟨ng, pl, ip, fp, ex⟩ := n
  cases fp <;> rcases ex with _ | ⟨l, g, ds⟩ <;> simp [NumText.render, signText, dotOpt, expOpt]

theorem NumText.denotes_eq (n : NumText) :
    n.denotes = (digitsToNat (n.ip ++ n.fp.getD [])).bind fun c =>
      (expOptVal n.exp).map fun e => ⟨n.neg, c, e - ((n.fp.getD []).length : Int)⟩ := by
  unfold NumText.denotes
  match n.exp with
  | none => rfl
  | some (l, ng, ds) => rfl

theorem NumText.wf_unpack {n : NumText} (h : n.wf = true) :
    AllDig n.ip ∧ AllDig (n.fp.getD []) ∧ ¬ (n.ip = [] ∧ n.fp.getD [] = []) ∧
      ∀ l ng ds, n.exp = some (l, ng, ds) → ds ≠ [] ∧ AllDig ds := by
  unfold NumText.wf at h
  simp only [Bool.and_eq_true] at h
  obtain ⟨⟨⟨h1, h2⟩, h3⟩, h4⟩ := h
  refine ⟨allDig_of_all h1, allDig_of_all h2, ?_, ?_⟩
  · rintro ⟨e1, e2⟩
    rw [e1, e2] at h3
    simp at h3
  · intro l ng ds he
    simp only [he, Bool.and_eq_true, Bool.not_eq_true', List.isEmpty_eq_false_iff] at h4
    exact ⟨h4.1, allDig_of_all h4.2⟩

theorem number_text_value' (n : NumText) (h : n.wf = true) :
    ∃ d, n.denotes = some d ∧ strToDec n.render = some d := by
  obtain ⟨h1, h2, h3, h4⟩ := NumText.wf_unpack h
  obtain ⟨c, hc⟩ := digitsToNat_some_of_allDig _ (List.forall_mem_append.mpr ⟨h1, h2⟩)
  obtain ⟨e, he⟩ : ∃ e, expOptVal n.exp = some e := by
    match hx : n.exp with
    | none => exact ⟨0, rfl⟩
    | some (l, ng, ds) =>
      obtain ⟨k, hk⟩ := digitsToNat_some_of_allDig ds (h4 l ng ds hx).2
      exact ⟨if ng then -(k : Int) else (k : Int), by simp [expOptVal, hk]⟩
  refine ⟨⟨n.neg, c, e - ((n.fp.getD []).length : Int)⟩, ?_, ?_⟩
  · rw [NumText.denotes_eq, hc, he]
    rfl
  · rw [NumText.render_eq]
    exact strToDec_parts n.neg n.plus n.ip n.fp _ c e h1 h2 h3 hc (expOpt_head n.exp) (by rw [expoVal_expOpt n.exp h4, he])

theorem render_numChars (n : NumText) (h : n.wf = true) : ∀ c ∈ n.render, isNumChar c = true := by
  obtain ⟨h1, h2, _, h4⟩ := NumText.wf_unpack h
  rw [NumText.render_eq]
  refine forall_mem_parts (fun c => isNumChar_of_isDig) (by decide) (by decide) (by decide) _ _ h1 h2 ?_
  match hx : n.exp with
  | none => exact fun _ hc => nomatch hc
  | some (l, ng, ds) =>
    refine List.forall_mem_cons.mpr ⟨by cases l <;> decide, List.forall_mem_append.mpr ⟨?_, fun c hc =>
      isNumChar_of_isDig ((h4 l ng ds hx).2 c hc)⟩⟩
    cases ng <;> decide

theorem number_text_valid' (n : NumText) (h : n.wf = true) : validNum n.render = true := by
  obtain ⟨d, _, hd⟩ := number_text_value' n h
  refine validNum_iff.mpr ⟨d, fun hn => ?_, render_numChars n h, hd⟩
  rw [hn] at hd
  cases hd

theorem parseTag_val (k : Nat) : parseTag ('m' :: natDigits k) = some (.val k) := by
  have hlast : ¬ ((natDigits k).getLast? = some 'M') := fun h =>
    (natDigits_allDig k _ (List.mem_of_getLast? h)).ne rfl rfl
  have he : (natDigits k).isEmpty = false := List.isEmpty_eq_false_iff.mpr (natDigits_ne_nil k)
  simp [parseTag, hlast, he, digitsToNat_natDigits']

theorem parseTag_valMuxer (k : Nat) : parseTag ('m' :: (natDigits k ++ ['M'])) = some (.valMuxer k) := by
  have he : (natDigits k).isEmpty = false := List.isEmpty_eq_false_iff.mpr (natDigits_ne_nil k)
  simp [parseTag, he, digitsToNat_natDigits']

/-- the tag of a tagged line is one token that `parseTag` understands -/
theorem lexTag_tok (lx : SgLex) (tag : Tag) (htag : tag ≠ .none) (r : Str) :
    ∃ c0 tk, lexTag lx tag ++ r = sps lx.nameTag ++ ((c0 :: tk) ++ (sps lx.preColon ++ r)) ∧
      (∀ c ∈ c0 :: tk, (!isBlank c && c != ':') = true) ∧ parseTag (c0 :: tk) = some tag := by
  have hdig : ∀ k, ∀ c ∈ natDigits k, (!isBlank c && c != ':') = true := fun k c hc =>
    tokChar_of_identChar (isDig_identChar (natDigits_allDig k c hc))
  cases tag with
  | none => exact absurd rfl htag
  | muxer =>
    refine ⟨'M', [], ?_, by decide, by simp [parseTag]⟩
    simp only [lexTag, List.append_assoc, List.cons_append, List.nil_append]
  | val k =>
    refine ⟨'m', natDigits k, ?_, List.forall_mem_cons.mpr ⟨by decide, hdig k⟩, parseTag_val k⟩
    simp only [lexTag, List.append_assoc, List.cons_append]
  | valMuxer k =>
    refine ⟨'m', natDigits k ++ ['M'], ?_, ?_, parseTag_valMuxer k⟩
    · simp only [lexTag, List.append_assoc, List.cons_append, List.nil_append]
    · exact List.forall_mem_cons.mpr ⟨by decide, List.forall_mem_append.mpr ⟨hdig k, by decide⟩⟩

/-- the blank counts are named as in `SgLex`; `preUnit`, `preRx` count the blanks beyond the one the pattern demands.
`ho hov` are about the byte-order digit, `hsg` the sign, `hf hof hmn hmx` the four numbers, `hu` the unit, `hrx` the receiver
text; `hcs`: the pattern of tagged lines (`cs = false`) allows no blank after the comma. -/
theorem parseSgTail_tokens (name : Str) (tag : Tag) (cs : Bool) (preColon postColon preParen postComma preBracket preUnit preRx : Nat)
    {start size order : Nat} {o sg : Char} {tf to tmn tmx : Str} {f ofs mn mx : Dec} {unit rx : Str}
    (ho : isDigit o = true) (hov : digitsToNat [o] = some order) (hsg : sg = '+' ∨ sg = '-')
    (hf : NumTok tf f) (hof : NumTok to ofs) (hmn : NumTok tmn mn) (hmx : NumTok tmx mx)
    (hcs : cs = true ∨ postComma = 0) (hu : ∀ c ∈ unit, c ≠ '"') (hrx : skipSp (sps preRx ++ rx) = rx) :
    parseSgTail name tag cs (sps preColon ++ ':' :: (sps postColon ++ (natDigits start ++ '|' :: (natDigits size ++ '@' :: o :: sg ::
      (sps preParen ++ '(' :: (tf ++ ',' :: (sps postComma ++ (to ++ ')' :: (sps preBracket ++ '[' :: (tmn ++ '|' :: (tmx ++ ']' :: ' ' ::
      (sps preUnit ++ '"' :: (unit ++ '"' :: ' ' :: (sps preRx ++ rx)))))))))))))) =
    some ⟨name, tag, start, size, order == 1, sg == '-', f, ofs, mn, mx, unit, (splitOn ',' rx).map stripWs⟩ := by
  have hsgd : isDigit sg = false := by rcases hsg with rfl | rfl <;> decide
  have hsgk : (sg != '+' && sg != '-' && sg != '|') = false := by rcases hsg with rfl | rfl <;> decide
  -- the pattern of tagged lines has no ` *` after the comma
  have hoff : ∀ r, (if cs = true then skipSp (sps postComma ++ (to ++ r)) else sps postComma ++ (to ++ r)) = to ++ r := by
    intro r
    rcases hcs with rfl | rfl
    · rw [if_pos rfl, hof.word.skipSp]
    · rw [hof.word.skipSp]; exact ite_self _
  -- Stage by stage with `rw`, not one `simp only`: the stages have to fire in this order (`skipSp_sps` would rewrite inside
  -- the `if commaSp` before `hoff` applies).  After each, `simp only []` or `dsimp only` takes the branch of the `match`.
  unfold parseSgTail
  rw [skipSp_sps_cons preColon ':' _ (by decide)]
  simp only []
  rw [skipSp_sps, skipSp_natDigits, natThen_natDigits '|' _ _ (by decide), Option.bind_some]
  dsimp only
  rw [natThen_natDigits '@' _ _ (by decide), Option.bind_some]
  dsimp only
  rw [span_one isDigit o sg _ ho hsgd]
  simp only [hsgk, Bool.false_eq_true, if_false]
  rw [hov, Option.bind_some, skipSp_sps_cons preParen '(' _ (by decide)]
  simp only []
  rw [numThen_tok hf ',' (by decide), Option.bind_some]
  dsimp only
  rw [hoff, numThen_tok hof ')' (by decide), Option.bind_some]
  dsimp only
  rw [skipSp_sps_cons preBracket '[' _ (by decide)]
  simp only []
  rw [numThen_tok hmn '|' (by decide), Option.bind_some]
  dsimp only
  rw [numThen_tok hmx ']' (by decide), Option.bind_some]
  simp only []
  rw [skipSp_sps_cons preUnit '"' _ (by decide)]
  simp only []
  rw [span_ne '"' unit _ hu]
  simp only []
  rw [hrx]

def sgTailLex (lx : SgLex) (nm : SgNums) (s : SgLine) : Str :=
  ':' :: (sps lx.postColon ++ (natDigits s.start ++ '|' :: (natDigits s.size ++ '@' :: (if s.little then '1' else '0') ::
    (if s.signed then '-' else '+') :: (sps lx.preParen ++ '(' :: (nm.factor ++ ',' :: (sps lx.postComma ++ (nm.offset ++
    ')' :: (sps lx.preBracket ++ '[' :: (nm.min ++ '|' :: (nm.max ++ ']' :: (sps lx.preUnit ++ '"' :: (s.unit ++
    '"' :: (sps lx.preRx ++ joinCommaSp lx.rx s.receivers)))))))))))))

theorem renderSgLex_eq (lx : SgLex) (nm : SgNums) (s : SgLine) :
    renderSgLex lx nm s =
      sps lx.lead ++ 'S' :: 'G' :: '_' :: (sps lx.kw ++ (s.name ++ (lexTag lx s.tag ++ sgTailLex lx nm s))) := by
  unfold renderSgLex sgTailLex
  lit_chars
  simp only [List.append_assoc, List.cons_append, List.nil_append]

/- `LastOK` of a line: the `LastOK.cons` / `LastOK.append` follow the tokens of the line from left to right -/
theorem LastOK.sgTailLex (lx : SgLex) (nm : SgNums) (s : SgLine) (hne : s.receivers ≠ [])
    (hr : ∀ r ∈ s.receivers, isIdent r = true) : LastOK (sgTailLex lx nm s) := by
  unfold Dbc.sgTailLex
  repeat (first | apply LastOK.cons | apply LastOK.append)
  exact LastOK.joinCommaSp _ _ hne hr

theorem parseSgTail_sgTailLex (name : Str) (tag : Tag) (cs : Bool) (k : Nat) (lx : SgLex) (nm : SgNums) (s : SgLine)
    (fa ofs mi ma : Dec) (hfa : NumTok nm.factor fa) (hof : NumTok nm.offset ofs) (hmi : NumTok nm.min mi)
    (hma : NumTok nm.max ma) (hpu : 1 ≤ lx.preUnit) (hpr : 1 ≤ lx.preRx) (hcs : cs = true ∨ lx.postComma = 0)
    (hu : ∀ c ∈ s.unit, c ≠ '"') (hne : s.receivers ≠ []) (hr : ∀ r ∈ s.receivers, isIdent r = true) :
    parseSgTail name tag cs (sps k ++ sgTailLex lx nm s) =
      some { s with name := name, tag := tag, factor := fa, offset := ofs, min := mi, max := ma } := by
  have ho : isDigit (if s.little then '1' else '0') = true ∧
      digitsToNat [if s.little then '1' else '0'] = some (if s.little then 1 else 0) := by cases s.little <;> decide
  have hl : ((if s.little then 1 else 0 : Nat) == 1) = s.little := by cases s.little <;> rfl
  have hs : ((if s.signed then '-' else '+' : Char) == '-') = s.signed := by cases s.signed <;> rfl
  unfold sgTailLex
  have hsg : (if s.signed then '-' else '+') = '+' ∨ (if s.signed then '-' else '+') = '-' := by cases s.signed <;> simp
  rw [sps_pos hpu, sps_pos hpr,
    parseSgTail_tokens name tag cs (preColon := k) (preUnit := lx.preUnit - 1) (preRx := lx.preRx - 1) (ho := ho.1) (hov := ho.2)
      (hsg := hsg) (hf := hfa) (hof := hof) (hmn := hmi) (hmx := hma) (hcs := hcs) (hu := hu)
      (hrx := skipSp_sps_joinCommaSp _ _ _ hne hr),
    hl, hs, receivers_lex _ _ hne hr]

theorem parseSg_plain (k pc : Nat) (name tl : Str) (hname : isIdent name = true) (hl : LastOK (':' :: tl)) :
    parseSg ('S' :: 'G' :: '_' :: ' ' :: (sps k ++ (name ++ (sps pc ++ ':' :: tl)))) =
      parseSgTail name .none true (sps pc ++ ':' :: tl) := by
  have hq := (LastOK.cons 'S' (LastOK.cons 'G' (LastOK.cons '_' (LastOK.cons ' '
    (LastOK.append (sps k) (LastOK.append name (LastOK.append (sps pc) hl))))))).ne_quote
  have hspan := span_name_stop name (sps pc ++ ':' :: tl) hname (sps_colon_stop _ (by decide) (by decide) pc tl)
  have hsk := (word_ident hname).skipSp k (sps pc ++ ':' :: tl)
  obtain ⟨x, tn, rfl, _⟩ := isIdent_head hname
  unfold parseSg
  rw [lit_sg, String.toList_ofList]
  simp only [hq, startsWith, List.take, List.length, List.drop, skipSp_space, hsk, hspan, beq_self_eq_true, Bool.not_true,
    skipSp_sps_cons pc ':' tl (by decide), Bool.false_eq_true, if_false]

/-- the reader's second pattern: a tag token between name and colon -/
theorem parseSg_tagged (k nt pc : Nat) (name : Str) (c0 : Char) (tk : Str) (tag : Tag) (tl : Str)
    (hname : isIdent name = true) (htok : ∀ c ∈ c0 :: tk, (!isBlank c && c != ':') = true)
    (hpt : parseTag (c0 :: tk) = some tag) (hl : LastOK (':' :: tl)) :
    parseSg ('S' :: 'G' :: '_' :: ' ' :: (sps k ++ (name ++ ' ' :: (sps nt ++ ((c0 :: tk) ++ (sps pc ++ ':' :: tl)))))) =
      parseSgTail name tag false (sps pc ++ ':' :: tl) := by
  have hq := (LastOK.cons 'S' (LastOK.cons 'G' (LastOK.cons '_' (LastOK.cons ' ' (LastOK.append (sps k)
    (LastOK.append name (LastOK.cons ' ' (LastOK.append (sps nt) (LastOK.append (c0 :: tk)
      (LastOK.append (sps pc) hl)))))))))).ne_quote
  have hc0 := htok c0 (by simp)
  have hc0s : c0 ≠ ' ' := by rintro rfl; revert hc0; decide
  have hc0c : c0 ≠ ':' := by rintro rfl; revert hc0; decide
  have hspan : ∀ r, (name ++ ' ' :: r).span (fun c => !isBlank c && c != ':') = (name, ' ' :: r) := fun r =>
    span_name_stop name _ hname (Or.inr ⟨_, _, rfl, by decide⟩)
  have hskt : ∀ r, skipSp (sps nt ++ (c0 :: tk ++ r)) = c0 :: (tk ++ r) := fun r => skipSp_sps_cons nt c0 _ hc0s
  have hspant : (c0 :: (tk ++ (sps pc ++ ':' :: tl))).span (fun c => !isBlank c && c != ':') =
      (c0 :: tk, sps pc ++ ':' :: tl) :=
    span_append_of _ (c0 :: tk) _ htok (sps_colon_stop _ (by decide) (by decide) pc tl)
  have hsk := (word_ident hname).skipSp k
  obtain ⟨x, tn, rfl, _⟩ := isIdent_head hname
  unfold parseSg
  rw [lit_sg, String.toList_ofList]
  simp only [hq, startsWith, List.take, List.length, List.drop, skipSp_space, hsk, hspan, beq_self_eq_true, Bool.not_true,
    Bool.false_eq_true, if_false, hskt]
  -- the first pattern does not apply: the tag does not start with a colon
  split
  · rename_i heq
    injection heq with h1 h2
    exact absurd h1 hc0c
  · rw [hspant]
    simp only [hpt, Option.bind_some]

theorem wfSg_unpack {s : SgLine} (h : wfSg s = true) :
    isIdent s.name = true ∧ (∀ c ∈ s.unit, c ≠ '"') ∧ s.receivers ≠ [] ∧ ∀ r ∈ s.receivers, isIdent r = true := by
  simp only [wfSg, Bool.and_eq_true, Bool.not_eq_true', List.all_eq_true, List.contains_eq_mem, decide_eq_false_iff_not,
    List.isEmpty_eq_false_iff] at h
  obtain ⟨⟨⟨⟨h1, h2⟩, _⟩, h4⟩, h5⟩ := h
  exact ⟨h1, fun c hc hq => h2 (hq ▸ hc), h4, h5⟩

theorem lexOk_unpack {lx : SgLex} {nm : SgNums} {tag : Tag} (h : lexOk lx nm tag = true) :
    1 ≤ lx.kw ∧ 1 ≤ lx.preUnit ∧ 1 ≤ lx.preRx ∧ (tag = .none ∨ (1 ≤ lx.nameTag ∧ lx.postComma = 0)) ∧
      validNum nm.factor = true ∧ validNum nm.offset = true ∧ validNum nm.min = true ∧ validNum nm.max = true := by
  simpa [lexOk, and_assoc] using h

theorem stripWs_renderSgLex (lx : SgLex) (nm : SgNums) (s : SgLine) (hne : s.receivers ≠ [])
    (hr : ∀ r ∈ s.receivers, isIdent r = true) :
    stripWs (renderSgLex lx nm s) =
      'S' :: 'G' :: '_' :: (sps lx.kw ++ (s.name ++ (lexTag lx s.tag ++ sgTailLex lx nm s))) := by
  rw [renderSgLex_eq, stripWs_sps]
  exact stripWs_id_of _ 'S' rfl (by decide) (LastOK.cons _ (LastOK.cons _ (LastOK.cons _ (LastOK.append _
    (LastOK.append _ (LastOK.append _ (LastOK.sgTailLex lx nm s hne hr)))))))

theorem parseSg_renderSgLex (lx : SgLex) (nm : SgNums) (s : SgLine) (h : wfSg s = true)
    (hl : lexOk lx nm s.tag = true) : parseSg (stripWs (renderSgLex lx nm s)) = some (withNums nm s) := by
  obtain ⟨hname, hunit, hrxne, hrxid⟩ := wfSg_unpack h
  obtain ⟨hkw, hpreUnit, hpreRx, htagSp, vfa, vof, vmi, vma⟩ := lexOk_unpack hl
  obtain ⟨fa, hfaTok⟩ := validNum_iff.mp vfa
  obtain ⟨ofs, hofTok⟩ := validNum_iff.mp vof
  obtain ⟨mi, hmiTok⟩ := validNum_iff.mp vmi
  obtain ⟨ma, hmaTok⟩ := validNum_iff.mp vma
  have hres : withNums nm s = { s with factor := fa, offset := ofs, min := mi, max := ma } := by
    simp only [withNums, hfaTok.2.2, hofTok.2.2, hmiTok.2.2, hmaTok.2.2, Option.getD_some]
  have hlast := LastOK.sgTailLex lx nm s hrxne hrxid
  have htail := fun tag cs k hcs => parseSgTail_sgTailLex s.name tag cs k lx nm s fa ofs mi ma hfaTok hofTok hmiTok hmaTok hpreUnit hpreRx hcs hunit hrxne hrxid
  rw [stripWs_renderSgLex lx nm s hrxne hrxid, sps_pos hkw, hres]
  by_cases htag : s.tag = .none
  · rw [htag]
    simp only [lexTag]
    exact (parseSg_plain (lx.kw - 1) lx.preColon s.name _ hname hlast).trans (htail .none true _ (Or.inl rfl))
  · obtain ⟨hnameTag, hnoCommaSp⟩ := htagSp.resolve_left htag
    obtain ⟨c0, tk, e, ht, hp⟩ := lexTag_tok lx s.tag htag (sgTailLex lx nm s)
    rw [e, sps_pos hnameTag]
    exact (parseSg_tagged (lx.kw - 1) (lx.nameTag - 1) lx.preColon s.name c0 tk s.tag _ hname ht hp hlast).trans (htail s.tag false _ (Or.inr hnoCommaSp))

theorem parseBo_lex_core (afterKw afterId preColon postColon preTx : Nat) {idS name szS tx : Str} {id size : Nat}
    (hid : Word idS) (hnm : Word name) (hnc : ∀ c ∈ name, c ≠ ':') (hsz : Word szS) (htx : Word tx)
    (hidv : digitsToNat idS = some id) (hszv : digitsToNat szS = some size) :
    parseBo ('B' :: 'O' :: '_' :: ' ' :: (sps afterKw ++ (idS ++ ' ' :: (sps afterId ++ (name ++ (sps preColon ++ ':' ::
      (sps postColon ++ (szS ++ ' ' :: (sps preTx ++ tx))))))))) = some ⟨id, name, size, tx⟩ := by
  have hspanName : ∀ r, (name ++ (sps preColon ++ ':' :: r)).span (fun c => c != ' ' && c != ':') = (name, sps preColon ++ ':' :: r) :=
    fun r => span_append_of _ _ _ (by intro c hc; simpa using ⟨hnm.2 c hc, hnc c hc⟩)
      (sps_colon_stop _ (by decide) (by decide) preColon r)
  have hspanTx : tx.span (· != ' ') = (tx, []) := span_all _ tx (by intro c hc; simpa using htx.2 c hc)
  have hskipTx : skipSp (sps preTx ++ tx) = tx := by simpa using htx.skipSp preTx []
  -- each token is matched against `[]` first
  obtain ⟨a1, t1, rfl⟩ := List.exists_cons_of_ne_nil hid.1
  obtain ⟨a2, t2, rfl⟩ := List.exists_cons_of_ne_nil hnm.1
  obtain ⟨a3, t3, rfl⟩ := List.exists_cons_of_ne_nil hsz.1
  obtain ⟨a4, t4, rfl⟩ := List.exists_cons_of_ne_nil htx.1
  unfold parseBo
  rw [lit_bo]
  simp only [startsWith, List.take, List.length, List.drop, beq_self_eq_true, Bool.not_true, Bool.false_eq_true, if_false,
    skipSp_space, hid.skipSp, hid.span, hnm.skipSp, hspanName, skipSp_sps_cons preColon ':' _ (by decide), hsz.skipSp, hsz.span, hskipTx, hspanTx]
  simp [hidv, hszv]

theorem wfBo_unpack {b : BoLine} (h : wfBo b = true) : isIdent b.name = true ∧ isIdent b.transmitter = true := by
  simpa [wfBo] using h

theorem renderBoLex_eq (lx : BoLex) (b : BoLine) :
    renderBoLex lx b = 'B' :: 'O' :: '_' :: (sps lx.kw ++ (natDigits b.id ++ (sps lx.idName ++ (b.name ++
      (sps lx.preColon ++ ':' :: (sps lx.postColon ++ (natDigits b.size ++ (sps lx.preTx ++ b.transmitter)))))))) := by
  unfold renderBoLex
  lit_chars
  simp only [List.append_assoc, List.cons_append, List.nil_append]

theorem stripWs_renderBoLex (lx : BoLex) (b : BoLine) (h : wfBo b = true) :
    stripWs (renderBoLex lx b) = renderBoLex lx b := by
  rw [renderBoLex_eq]
  exact stripWs_id_of _ 'B' rfl (by decide) (LastOK.cons _ (LastOK.cons _ (LastOK.cons _ (LastOK.append _ (LastOK.append _
    (LastOK.append _ (LastOK.append _ (LastOK.append _ (LastOK.cons _ (LastOK.append _ (LastOK.append _ (LastOK.append _
      (LastOK.of_isIdent (wfBo_unpack h).2)))))))))))))

theorem parseBo_renderBoLex (lx : BoLex) (b : BoLine) (h : wfBo b = true) (hl : boLexOk lx = true) :
    parseBo (stripWs (renderBoLex lx b)) = some b := by
  obtain ⟨h1, h2⟩ := wfBo_unpack h
  have hl' : 1 ≤ lx.kw ∧ 1 ≤ lx.idName ∧ 1 ≤ lx.preTx := by simpa [boLexOk, and_assoc] using hl
  rw [stripWs_renderBoLex lx b h, renderBoLex_eq, sps_pos hl'.1, sps_pos hl'.2.1, sps_pos hl'.2.2]
  exact parseBo_lex_core (lx.kw - 1) (lx.idName - 1) lx.preColon lx.postColon (lx.preTx - 1) (word_natDigits _) (word_ident h1)
    (fun c hc => identChar_ne (isIdent_all h1 c hc) rfl) (word_natDigits _) (word_ident h2)
    (digitsToNat_natDigits' _) (digitsToNat_natDigits' _)

end CanVerif.Dbc
