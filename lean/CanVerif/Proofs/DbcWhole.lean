import CanVerif.Proofs.DbcTablesRT
import CanVerif.Proofs.DbcStatements
import CanVerif.Proofs.StrLit

/-!
# The whole file read back

`read_sections`: the statement sections, read from the state the frame section leaves, one state after each of the four groups of
sections, each frame through its own statements (`per_frame`).  With the lines in front of them this is the round trip of the whole
matrix (Props/C05n) and of the file as `dump` writes it, with header and empty lines (`filter_gaps`, Props/C05o); the writers of fewer
sections are the whole writer on a matrix without those sections (Props/C05m, C05k, C05j, C05h).
-/

namespace CanVerif.Dbc.FileProofs

open CanVerif CanVerif.Dbc CanVerif.Num

theorem gap_line (m : RMatrix) (hm : m.pending = none) : [([] : Str)].foldl stepFile m = m := step_gap m hm

theorem bu_line (es : List WEcu) (hes : wfEcus es = true) :
    [renderBu (es.map (·.name)), ([] : Str)].foldl stepFile {} = { ecus := es.map plainEcu } := by
  simp only [wfEcus, Bool.and_eq_true, List.all_eq_true, decide_eq_true_eq] at hes
  have hbuwf : (Stmt.bu (es.map (·.name))).wf = true := by
    simp only [Stmt.wf, List.all_eq_true, Bool.and_eq_true, decide_eq_true_eq]
    exact List.forall_mem_map.mpr fun e he => (hes.1 e he).1
  simp only [List.foldl_cons, List.foldl_nil]
  rw [show stepFile {} (renderBu _) = _ from step_stmt {} (.bu (es.map (·.name))) rfl hbuwf, step_gap _ rfl]
  simp [applyStmt, Stmt.item, applyItem, Item.frameNo, applyCore, plainEcu, Function.comp_def]

theorem vt_lines (ts : List WTable) (hts : wfTables ts = true) (m : RMatrix) (hm : m.pending = none) (ht : m.tables = []) :
    (writeStmts (ts.map fun t => Stmt.vt t.line)).foldl stepFile m = { m with tables := ts.map WTable.line } := by
  simp only [wfTables, Bool.and_eq_true, List.all_eq_true, decide_eq_true_eq] at hts
  have hwf : ∀ s ∈ ts.map fun t => Stmt.vt t.line, s.wf = true :=
    List.forall_mem_map.mpr fun tb htb => wfVt_line tb (hts.1 tb htb).1.1 (hts.1 tb htb).1.2
  rw [read_statements _ hwf _ hm]
  have : (ts.map fun t => Stmt.vt t.line).foldl applyStmt m = (ts.map fun t => Item.vt t.line).foldl applyItem m := by
    rw [List.foldl_map, List.foldl_map]
    rfl
  rw [this, vt_fold ts [] m ht (by simpa using hts.2) (fun tb htb => (hts.1 tb htb).2)]
  rfl

theorem frame_section (ps : List (WFrame × (Nat × Bool))) (hwf : ∀ p ∈ ps, p.1.wf p.2 = true) (m : RMatrix) (hm : m.pending = none)
    (hf : m.frames = []) :
    ∃ mAfter, (writeFrames ((ps.map (·.1)).map WFrame.block)).foldl stepFile m = mAfter ∧
      mAfter.frames = ps.map (fun p => frameOfBlock p.1.block p.2) ∧ SameRest mAfter m ∧ mAfter.ecus = m.ecus ∧ mAfter.errors = m.errors := by
  have hblocks : (ps.map (·.1)).map WFrame.block = ps.map fun p => p.1.block := by rw [List.map_map]; rfl
  have hkeys : (ps.map fun p => p.1.block).map (fun b => boKey b.bo) = (ps.map (·.2)).map some := by
    rw [List.map_map, List.map_map]
    exact List.map_congr_left fun p hp => (wf_unpack (hwf p hp)).key
  have hblk : ∀ b ∈ (ps.map fun p => p.1.block), wfBlock b = true := List.forall_mem_map.mpr fun p hp => (wf_unpack (hwf p hp)).block
  obtain ⟨c, h⟩ := frames_fold_state _ (ps.map (·.2)) m hm hblk hkeys
  rw [hblocks, h]
  refine ⟨_, rfl, ?_, ⟨rfl, rfl, rfl, rfl⟩, rfl, rfl⟩
  rw [hf, framesOfBlocks_ps]; rfl
def stmtsAll (es : List WEcu) (ds : List DefLine) (dds : List DefDefLine) (ga : List (Str × Str)) (fs : List WFrame) : List FileStmt :=
  stmtsFront es fs ++ (stmtsDefs es ds dds ga ++ (stmtsAttrs fs ++ stmtsBack fs))

theorem stmtsFront_static (es : List WEcu) (hes : wfEcus es = true) (ps : List (WFrame × (Nat × Bool))) (hwf : ∀ p ∈ ps, p.1.wf p.2 = true) :
    ∀ s ∈ stmtsFront es (ps.map (·.1)), staticOkE (ps.map (·.2)) (es.map (·.name)) s := by
  intro s hs
  simp only [wfEcus, Bool.and_eq_true, List.all_eq_true, decide_eq_true_eq] at hes
  simp only [stmtsFront, List.mem_append, List.mem_flatMap, List.mem_map] at hs
  rcases hs with ((⟨f, ⟨p, hp, rfl⟩, hsf⟩ | ⟨f, ⟨p, hp, rfl⟩, hsf⟩) | ⟨f, ⟨p, hp, rfl⟩, hsf⟩) | hsf
  · exact staticOkE_of _ _ _ (tx_static p.1 p.2 (hwf p hp) _ s hsf)
  · exact staticOkE_of _ _ _ (cm_static p.1 p.2 (hwf p hp) _ (List.mem_map.mpr ⟨p, hp, rfl⟩) s hsf)
  · exact staticOkE_of _ _ _ (sigcm_static p.1 p.2 (hwf p hp) _ (List.mem_map.mpr ⟨p, hp, rfl⟩) s hsf)
  · unfold ecuCmStmts at hsf
    obtain ⟨e, he, hse⟩ := List.mem_filterMap.mp hsf
    obtain ⟨c, hc, rfl⟩ := Option.map_eq_some_iff.mp hse
    have := hes.1 e he
    rw [hc] at this
    exact ⟨this.1.1, by simpa using this.2, List.mem_map.mpr ⟨e, he, rfl⟩⟩

theorem stmtsBack_static (ps : List (WFrame × (Nat × Bool))) (hwf : ∀ p ∈ ps, p.1.wf p.2 = true) (keys : List (Nat × Bool)) (enames : List Str) :
    ∀ s ∈ stmtsBack (ps.map (·.1)), staticOkE keys enames s := by
  intro s hs
  simp only [stmtsBack, List.mem_append, List.mem_flatMap, List.mem_map] at hs
  rcases hs with ((⟨f, ⟨p, hp, rfl⟩, hsf⟩ | ⟨f, ⟨p, hp, rfl⟩, hsf⟩) | ⟨f, ⟨p, hp, rfl⟩, hsf⟩) | ⟨f, ⟨p, hp, rfl⟩, hsf⟩
  · exact staticOkE_of _ _ _ (val_static p.1 p.2 (hwf p hp) _ s hsf)
  · exact staticOkE_of _ _ _ (valtype_static p.1 p.2 (hwf p hp) _ s hsf)
  · exact staticOkE_of _ _ _ (grp_static p.1 p.2 (hwf p hp) _ s hsf)
  · exact staticOkE_of _ _ _ (mul_static p.1 p.2 (hwf p hp) _ s hsf)

theorem itemsAttrs_ok (D : List RDef) (ps : List (WFrame × (Nat × Bool))) (hfa : ∀ p ∈ ps, p.1.wfA D = true) :
    (∀ s ∈ stmtsAttrs (ps.map (·.1)), ∃ st, s = .one st ∧ st.wf = true) ∧ ∀ it ∈ itemsAttrs ps, isFrameBa it = true ∧ baOk D it = true := by
  simp only [WFrame.wfA, wfAttrs, Bool.and_eq_true, List.all_eq_true] at hfa
  constructor
  · intro s hs
    simp only [stmtsAttrs, List.mem_append, List.mem_flatMap, List.mem_map] at hs
    rcases hs with ⟨f, ⟨p, hp, rfl⟩, hs⟩ | ⟨f, ⟨p, hp, rfl⟩, hs⟩
    · obtain ⟨kv, hkv, rfl⟩ := List.mem_map.mp hs
      exact ⟨_, rfl, ((hfa p hp).1 kv hkv).1⟩
    · obtain ⟨sg, hsg, hs'⟩ := List.mem_flatMap.mp hs
      obtain ⟨kv, hkv, rfl⟩ := List.mem_map.mp hs'
      exact ⟨_, rfl, ((hfa p hp).2 sg hsg kv hkv).1⟩
  · intro it hit
    simp only [itemsAttrs, secItems, attrSecs, List.flatMap_cons, List.flatMap_nil, List.append_nil, List.mem_append, List.mem_flatMap] at hit
    rcases hit with ⟨p, hp, hit⟩ | ⟨p, hp, hit⟩
    · obtain ⟨kv, hkv, rfl⟩ := List.mem_map.mp hit
      exact ⟨rfl, ((hfa p hp).1 kv hkv).2⟩
    · obtain ⟨s, hs, hit'⟩ := List.mem_flatMap.mp hit
      obtain ⟨kv, hkv, rfl⟩ := List.mem_map.mp hit'
      exact ⟨rfl, ((hfa p hp).2 s hs kv hkv).2⟩

/-- the matrix `m` read from the statement sections, from the state `mAfter` the frame section leaves -/
structure ReadBack (mAfter m : RMatrix) (es : List WEcu) (ds : List DefLine) (dds : List DefDefLine) (ga : List (Str × Str))
    (ps : List (WFrame × (Nat × Bool))) : Prop where
  ecus : m.ecus = es.map WEcu.expectA
  defs : m.defs = expectDefs ds dds
  attrs : m.attrs = attrsOf ga
  frames : m.frames = ps.map (fun p => p.1.expectA p.2)
  pending : m.pending = none
  errors : m.errors = mAfter.errors
  tables : m.tables = mAfter.tables

/-- `mAfter` is the state `frame_section` gives (its frames, no open comment, the ECUs of the `BU_:` line, no definitions or attributes
yet); `stmtsAll` are the statement sections behind it -/
theorem read_sections (es : List WEcu) (hes : wfEcus es = true) (ds : List DefLine) (hds : wfDefs ds = true)
    (dds : List DefDefLine) (hdds : wfDefaults ds dds = true)
    (ga : List (Str × Str)) (hga : wfAttrs (expectDefs ds dds) .global .global ga = true)
    (hea : ∀ e ∈ es, wfAttrs (expectDefs ds dds) .ecu (.ecu e.name) e.attrs = true)
    (ps : List (WFrame × (Nat × Bool))) (hwf : ∀ p ∈ ps, p.1.wf p.2 = true) (hdist : ps.Pairwise fun p q => p.2 ≠ q.2)
    (hfa : ∀ p ∈ ps, p.1.wfA (expectDefs ds dds) = true)
    (mAfter : RMatrix) (hframes : mAfter.frames = ps.map fun p => frameOfBlock p.1.block p.2) (hpending : mAfter.pending = none)
    (hecus : mAfter.ecus = es.map plainEcu) (hdefs : mAfter.defs = []) (hattrs : mAfter.attrs = []) :
    ∃ m, (stmtsAll es ds dds ga (ps.map (·.1))).foldl FileStmt.apply mAfter = m ∧ okFile mAfter (stmtsAll es ds dds ga (ps.map (·.1))) = true ∧
      ReadBack mAfter m es ds dds ga ps := by
  have hnd : (es.map (·.name)).Nodup := by
    simp only [wfEcus, Bool.and_eq_true, decide_eq_true_eq] at hes; exact hes.2
  have hnumAll : ∀ q ∈ ps, keyOfCompound q.1.bo.id = some q.2 := fun q hq => (wf_unpack (hwf q hq)).number
  have hkeys0 : mAfter.frames.map (·.key) = ps.map (·.2) := by rw [hframes, List.map_map]; rfl
  have hnames0 : mAfter.ecus.map (·.name) = es.map (·.name) := by rw [hecus, List.map_map]; rfl
  -- the identifiers and the names of the signals, which every later statement looks up, are those of the frame section from here on
  have shaped0 : Shaped (shapesOf ps) mAfter := by
    refine ⟨?_, ?_⟩
    · have : (mAfter.frames.map (·.key)).Pairwise (· ≠ ·) := by rw [hkeys0, List.pairwise_map]; exact hdist
      rwa [List.pairwise_map] at this
    · rw [hframes, List.map_map]
      apply List.map_congr_left
      intro p _
      simp [sigShape, frameOfBlock, sigsOf, WFrame.block, rereadSg_name, Function.comp_def]
  -- the sections in front of the attribute statements
  obtain ⟨rest1, _⟩ := items_rest (itemsFront es ps) mAfter fun it hit => (itemsFront_kind es ps it hit).imp_left isSomeA_of_isSome
  have frames1 := frames_after_items _ mAfter shaped0.1 (itemsFront_kind es ps)
  have ecus1 := itemsFront_ecus es hnd ps mAfter hecus
  obtain ⟨err1, shaped1⟩ := fine_fold _ (itemsFront es ps) mAfter shaped0 fun it hit =>
    (List.mem_append.mp hit).imp (secItems_fine_noBa frontSecs frontSecs_noBa ps hnumAll mAfter.defs it) (ecuCmItems_ecu es it)
  generalize hm1 : (itemsFront es ps).foldl applyItem mAfter = m1 at rest1 frames1 ecus1 err1 shaped1
  -- definitions, defaults, attributes of the ECUs and of the matrix
  have h2 := itemsDefs_fold es hnd ds hds dds hdds ga hga hea m1 (rest1.defs.trans hdefs) (rest1.attrs.trans hattrs) ecus1
  generalize hm2 : (itemsDefs es ds dds ga).foldl applyItem m1 = m2 at h2
  have shaped2 : Shaped (shapesOf ps) m2 := by rw [h2]; exact ⟨keysUnique_of_keys m1 _ rfl shaped1.1, shaped1.2⟩
  -- attributes of frames and signals
  obtain ⟨hAttrsOnes, hAttrsOk⟩ := itemsAttrs_ok (expectDefs ds dds) ps hfa
  have hd2 : m2.defs = expectDefs ds dds := by rw [h2]
  rw [← hd2] at hAttrsOk
  obtain ⟨rest3, _⟩ := items_rest (itemsAttrs ps) m2 fun it hit => Or.inl (isFrameBa_some it (hAttrsOk it hit).1)
  obtain ⟨frames3, _, ecus3, _⟩ := ba_fold (itemsAttrs ps) m2 shaped2.1 hAttrsOk
  obtain ⟨err3, shaped3⟩ := fine_fold _ (itemsAttrs ps) m2 shaped2 fun it hit =>
    Or.inl ⟨secItems_fine attrSecs attrSecs_sec ps hnumAll it hit, (hAttrsOk it hit).2⟩
  generalize hm3 : (itemsAttrs ps).foldl applyItem m2 = m3 at rest3 frames3 ecus3 err3 shaped3
  -- the sections behind them
  have hBackSome : ∀ it ∈ itemsBack ps, (itemFrameUpdA it).isSome = true := fun it hit => isSomeA_of_isSome (itemsBack_isSome ps it hit)
  obtain ⟨rest4, ecus4⟩ := items_rest (itemsBack ps) m3 fun it hit => Or.inl (hBackSome it hit)
  have frames4 := frames_after_items (itemsBack ps) m3 shaped3.1 fun it hit => Or.inl (itemsBack_isSome ps it hit)
  obtain ⟨err4, _⟩ := fine_fold _ (itemsBack ps) m3 shaped3 fun it hit =>
    Or.inl (secItems_fine_noBa backSecs backSecs_noBa ps hnumAll m3.defs it hit)
  -- the statements as the reader's items
  have i1 : (stmtsFront es (ps.map (·.1))).foldl FileStmt.apply mAfter = m1 := by rw [apply_eq_items, stmtsFront_items, hm1]
  have i2 : (stmtsDefs es ds dds ga).foldl FileStmt.apply m1 = m2 := by rw [apply_eq_items, stmtsDefs_items, hm2]
  have i3 : (stmtsAttrs (ps.map (·.1))).foldl FileStmt.apply m2 = m3 := by rw [apply_eq_items, stmtsAttrs_items, hm3]
  have i4 := apply_eq_items (stmtsBack (ps.map (·.1))) m3
  rw [stmtsBack_items] at i4
  -- every statement can be read at its point
  have hokFront : okFile mAfter (stmtsFront es (ps.map (·.1))) = true :=
    okFile_staticE _ mAfter shaped0.1 (by rw [hkeys0, hnames0]; exact stmtsFront_static es hes ps hwf)
  have hokDefs : okFile m1 (stmtsDefs es ds dds ga) = true :=
    okFile_ones _ (stmtsDefs_ones es ds hds dds hdds _ ga hga hea) m1
  have hokBack : okFile m3 (stmtsBack (ps.map (·.1))) = true := okFile_staticE _ m3 shaped3.1 (stmtsBack_static ps hwf _ _)
  refine ⟨_, rfl, ?_, ?_⟩
  · rw [stmtsAll, okFile_append, okFile_append, okFile_append, hokFront, i1, hokDefs, i2, okFile_ones _ hAttrsOnes m2, i3, hokBack]
    rfl
  rw [stmtsAll, List.foldl_append, List.foldl_append, List.foldl_append, i1, i2, i3, i4]
  refine { ecus := ?ecus, defs := ?defs, attrs := ?attrs, frames := ?frames, pending := ?pending, errors := ?errors, tables := ?tables }
  case ecus => rw [ecus4, fold_other_ecus _ hBackSome, ecus3, h2]
  case defs => rw [rest4.defs, rest3.defs, h2]
  case attrs => rw [rest4.attrs, rest3.attrs, h2]
  case frames =>
    rw [frames4, frames3, h2]
    simp only
    rw [frames1, hframes, List.map_map, List.map_map, List.map_map]
    exact List.map_congr_left fun p hp => per_frame es ps hwf hdist p hp
  case pending =>
    rw [rest4.pending, rest3.pending, h2]
    exact rest1.pending.trans hpending
  case errors =>
    rw [err4, err3, h2]
    exact err1
  case tables =>
    rw [rest4.tables, rest3.tables, h2]
    exact rest1.tables

theorem writeCoreH_eq (es : List WEcu) (ts : List WTable) (ds : List DefLine) (dds : List DefDefLine) (ga : List (Str × Str)) (fs : List WFrame) :
    writeCoreH es ts ds dds ga fs = [renderBu (es.map (·.name)), []] ++ writeStmts (ts.map fun t => .vt t.line) ++ [[]] ++
      writeFrames (fs.map WFrame.block) ++ writeFile (stmtsAll es ds dds ga fs) := rfl

/-! ## The writers of fewer sections

Each is the next one on a matrix that has nothing for the missing sections: no value tables, frames and signals without attributes, ECUs
without attributes and no definitions, no ECUs. -/

/-- without value tables the file is `writeCoreF` with one more empty line -/
theorem readFile_coreH_nil (es : List WEcu) (hes : wfEcus es = true) (ds : List DefLine) (dds : List DefDefLine) (ga : List (Str × Str))
    (fs : List WFrame) : readFile (writeCoreH es [] ds dds ga fs) = readFile (writeCoreF es ds dds ga fs) := by
  unfold readFile writeCoreH writeCoreF
  simp only [List.map_nil, writeStmts, List.append_nil, List.foldl_append]
  rw [bu_line es hes, gap_line _ rfl]

def bareFrame (f : WFrame) : WFrame := { f with attrs := [], sigs := f.sigs.map fun s => { s with attrs := [] } }

theorem bareFrame_stmts (f : WFrame) :
    (bareFrame f).block = f.block ∧ (bareFrame f).txStmts = f.txStmts ∧ (bareFrame f).cmStmts = f.cmStmts ∧ (bareFrame f).sigCmStmts = f.sigCmStmts ∧
    (bareFrame f).valStmts = f.valStmts ∧ (bareFrame f).valtypeStmts = f.valtypeStmts ∧ (bareFrame f).grpStmts = f.grpStmts ∧ (bareFrame f).mulStmts = f.mulStmts ∧
    (bareFrame f).baStmts = [] ∧ (bareFrame f).sigBaStmts = [] := by
  refine ⟨?_, rfl, rfl, ?_, ?_, ?_, rfl, ?_, rfl, ?_⟩
  · simp only [bareFrame, WFrame.block, List.map_map]; rfl
  · simp only [bareFrame, WFrame.sigCmStmts, List.filterMap_map]; rfl
  · simp only [bareFrame, WFrame.valStmts, List.filterMap_map]; rfl
  · simp only [bareFrame, WFrame.valtypeStmts, List.filterMap_map]; rfl
  · simp only [bareFrame, WFrame.mulStmts, List.filterMap_map]; rfl
  · simp only [bareFrame, WFrame.sigBaStmts, List.flatMap_map, List.map_nil, List.flatMap_eq_nil_iff, implies_true]

theorem writeCoreD_bare (es : List WEcu) (ds : List DefLine) (dds : List DefDefLine) (ga : List (Str × Str)) (fs : List WFrame) :
    writeCoreD es ds dds ga fs = writeCoreF es ds dds ga (fs.map bareFrame) := by
  have hnil : ∀ l : List WFrame, (l.flatMap fun _ => ([] : List FileStmt)) = [] := fun l => List.flatMap_eq_nil_iff.mpr fun _ _ => rfl
  unfold writeCoreD writeCoreF
  simp only [List.flatMap_map, List.map_map, Function.comp_def, bareFrame_stmts, hnil, List.append_nil, List.nil_append]

theorem bareFrame_wf (f : WFrame) (k : Nat × Bool) : (bareFrame f).wf k = f.wf k := by
  simp only [WFrame.wf, (bareFrame_stmts f).1, WFrame.senders]
  simp only [bareFrame, List.all_map, List.map_map, Function.comp_def]
  rfl

theorem bareFrame_wfA (f : WFrame) (D : List RDef) : (bareFrame f).wfA D = true := by
  simp only [WFrame.wfA, bareFrame, wfAttrs, List.all_nil, List.all_map, Function.comp_def, Bool.true_and, List.all_eq_true, implies_true]

theorem bareFrame_expectA (f : WFrame) (k : Nat × Bool) : (bareFrame f).expectA k = f.expect k := by
  simp only [WFrame.expectA, WFrame.expect, WFrame.senders, bareFrame, List.map_map, List.any_map, Function.comp_def]
  rfl

def bareEcu (e : WEcu) : WEcu := { e with attrs := [] }

theorem writeCoreE_bare (es : List WEcu) (fs : List WFrame) : writeCoreE es fs = writeCoreD (es.map bareEcu) [] [] [] fs := by
  unfold writeCoreE writeCoreD
  have e1 : (es.map bareEcu).map (·.name) = es.map (·.name) := by rw [List.map_map]; rfl
  have e2 : ecuCmStmts (es.map bareEcu) = ecuCmStmts es := by unfold ecuCmStmts; rw [List.filterMap_map]; rfl
  have e3 : ecuBaStmts (es.map bareEcu) = [] := by
    unfold ecuBaStmts; rw [List.flatMap_map, List.flatMap_eq_nil_iff]; exact fun _ _ => rfl
  rw [e1, e2, e3]
  simp only [defStmts, defdefStmts, globalBaStmts, List.map_nil, List.append_nil, List.nil_append, List.append_assoc]

def isGap : FileStmt → Bool
  | .one .gap => true
  | _ => false

theorem filter_gaps (l : List FileStmt) (m : RMatrix) :
    okFile m l = okFile m (l.filter fun s => !isGap s) ∧
    l.foldl FileStmt.apply m = (l.filter fun s => !isGap s).foldl FileStmt.apply m := by
  induction l generalizing m with
  | nil => exact ⟨rfl, rfl⟩
  | cons s r ih =>
    by_cases hg : isGap s = true
    · have : s = .one .gap := by
        cases s with
        | one st => cases st <;> simp_all [isGap]
        | cm h t => simp [isGap] at hg
      subst this
      exact ih m
    · have hg' : isGap s = false := by simpa using hg
      simp only [List.filter_cons, hg', Bool.not_false, if_true, okFile, List.foldl_cons]
      exact ⟨by rw [(ih _).1], (ih _).2⟩

theorem filter_gap_singleton : ([gapStmt].filter fun s => !isGap s) = [] := rfl

theorem filterMap_gap : [gapStmt].filterMap FileStmt.toItem = [] := rfl

theorem header_fold : dbcHeader.foldl stepFile {} = {} := by unfold dbcHeader; lit_chars; decide +kernel

/-- `stmtsAll` with the empty lines `dump` puts behind some of the sections -/
def stmtsAllGaps (es : List WEcu) (ds : List DefLine) (dds : List DefDefLine) (ga : List (Str × Str)) (fs : List WFrame) : List FileStmt :=
  (fs.flatMap WFrame.txStmts ++ fs.flatMap WFrame.cmStmts ++ [gapStmt] ++ fs.flatMap WFrame.sigCmStmts ++ [gapStmt] ++ ecuCmStmts es ++ [gapStmt]) ++
    ((defStmts ds ++ defdefStmts dds ++ ecuBaStmts es ++ [gapStmt] ++ globalBaStmts ga ++ [gapStmt]) ++
     ((fs.flatMap WFrame.baStmts ++ [gapStmt] ++ fs.flatMap WFrame.sigBaStmts ++ [gapStmt]) ++ stmtsBack fs))

theorem stmtsAllGaps_filter (es : List WEcu) (ds : List DefLine) (dds : List DefDefLine) (ga : List (Str × Str)) (fs : List WFrame) :
    (stmtsAllGaps es ds dds ga fs).filter (fun s => !isGap s) = (stmtsAll es ds dds ga fs).filter (fun s => !isGap s) := by
  simp only [stmtsAllGaps, stmtsAll, stmtsFront, stmtsDefs, stmtsAttrs, List.filter_append, filter_gap_singleton, List.append_nil]

theorem writeDbc_eq (es : List WEcu) (ts : List WTable) (ds : List DefLine) (dds : List DefDefLine) (ga : List (Str × Str)) (fs : List WFrame) :
    writeDbc es ts ds dds ga fs = dbcHeader ++ [renderBu (es.map (·.name)), []] ++ writeStmts (ts.map fun t => .vt t.line) ++ [[]] ++
      writeFrames (fs.map WFrame.block) ++ [[]] ++ writeFile (stmtsAllGaps es ds dds ga fs) := rfl

end CanVerif.Dbc.FileProofs
