import CanVerif.Model.EcuOps
import CanVerif.Proofs.FirstMatch
/-!
# ECU reference maintenance (C11): list facts and normal forms

The operations of `Model/EcuOps` edit name lists by `addIfAbsent`, `List.erase`, `replaceRef` and by
setting the first occurrence of a name.  Each of these gets its membership and `Nodup` facts here, and
each matrix operation a normal form `{ ecus := …, frames := m.frames.map … }` from which the C11
theorems start.
-/
namespace CanVerif.EcuOps
open CanVerif

theorem mem_addIfAbsent {l : List String} {x y : String} :
    x ∈ addIfAbsent l y ↔ x ∈ l ∨ x = y := by
  unfold addIfAbsent
  split
  · rename_i h
    simp only [List.contains_iff_mem] at h
    exact ⟨Or.inl, fun hx => hx.elim id (· ▸ h)⟩
  · simp

theorem nodup_addIfAbsent {l : List String} (y : String) (h : l.Nodup) : (addIfAbsent l y).Nodup := by
  unfold addIfAbsent
  split
  · exact h
  · rename_i hc
    exact List.perm_append_comm.nodup_iff.mp (List.nodup_cons.mpr ⟨fun hm => hc (List.contains_iff_mem.mpr hm), h⟩)

theorem prefix_addIfAbsent (l : List String) (y : String) : l <+: addIfAbsent l y := by
  unfold addIfAbsent
  split
  · exact List.prefix_refl l
  · exact List.prefix_append l [y]

/-- `step acc b` extends `acc` at its end, without introducing a duplicate, by exactly the `x` with
`Q b x`.  `addIfAbsent` is such a step, and so is every loop over such steps. -/
structure Adds {β : Type} (step : List String → β → List String) (Q : β → String → Prop) : Prop where
  pre : ∀ acc b, acc <+: step acc b
  nodup : ∀ {acc} b, acc.Nodup → (step acc b).Nodup
  mem : ∀ {acc b x}, x ∈ step acc b ↔ x ∈ acc ∨ Q b x

theorem Adds.foldl {β γ : Type} {step : List String → β → List String} {Q : β → String → Prop}
    (h : Adds step Q) (g : γ → β) :
    Adds (fun acc (cs : List γ) => cs.foldl (fun a c => step a (g c)) acc)
      (fun cs x => ∃ c ∈ cs, Q (g c) x) where
  pre acc cs :=
    List.foldlRecOn (motive := (acc <+: ·)) cs _ (List.prefix_refl acc) fun b hb c _ => hb.trans (h.pre b (g c))
  nodup cs hn := List.foldlRecOn (motive := List.Nodup) cs _ hn fun _ hb c _ => h.nodup (g c) hb
  mem {acc cs x} := by
    induction cs generalizing acc with
    | nil => simp
    | cons c cs ih =>
      simp only [List.foldl_cons, ih, h.mem, List.mem_cons, or_and_right, exists_or, exists_eq_left,
        or_assoc]

theorem adds_addIfAbsent : Adds addIfAbsent (fun y x => x = y) :=
  ⟨prefix_addIfAbsent, nodup_addIfAbsent, mem_addIfAbsent⟩

theorem adds_foldl_addIfAbsent :
    Adds (fun acc (ys : List String) => ys.foldl addIfAbsent acc) (fun ys x => x ∈ ys) := by
  simpa using adds_addIfAbsent.foldl id

/-- the loop of `EFrame.updateReceiver`, from any start list -/
def recvFold (sigs : List ESig) (acc : List String) : List String :=
  sigs.foldl (fun acc s => s.receivers.foldl addIfAbsent acc) acc

theorem adds_recvFold :
    Adds (fun acc sigs => recvFold sigs acc) (fun sigs x => ∃ s ∈ sigs, x ∈ s.receivers) :=
  adds_foldl_addIfAbsent.foldl ESig.receivers

theorem mem_updateReceiver {f : EFrame} {x : String} :
    x ∈ f.updateReceiver.receivers ↔ ∃ s ∈ f.sigs, x ∈ s.receivers :=
  (adds_recvFold.mem (acc := [])).trans (by simp)

theorem nodup_updateReceiver (f : EFrame) : f.updateReceiver.receivers.Nodup :=
  adds_recvFold.nodup f.sigs List.nodup_nil

@[simp] theorem updateReceiver_sigs (f : EFrame) : f.updateReceiver.sigs = f.sigs := rfl
@[simp] theorem updateReceiver_transmitters (f : EFrame) :
    f.updateReceiver.transmitters = f.transmitters := rfl
@[simp] theorem updateReceiver_name (f : EFrame) : f.updateReceiver.name = f.name := rfl

theorem mem_replaceRef {l : List String} {old new x : String} (hnd : l.Nodup) :
    x ∈ replaceRef l old new ↔ (x = new ∧ old ∈ l) ∨ (x ≠ old ∧ x ∈ l) := by
  unfold replaceRef
  split
  · rename_i h
    simp only [List.contains_iff_mem] at h
    simp only [mem_addIfAbsent, hnd.mem_erase_iff, h, and_true, Or.comm]
  · rename_i h
    simp only [List.contains_iff_mem] at h
    simp only [h, and_false, false_or, iff_and_self]
    exact fun hx e => h (e ▸ hx)

theorem nodup_replaceRef {l : List String} {old new : String} (hnd : l.Nodup) :
    (replaceRef l old new).Nodup := by
  unfold replaceRef
  split
  · exact nodup_addIfAbsent new (hnd.erase old)
  · exact hnd

theorem replaceRef_of_not_mem {l : List String} {old new : String} (h : old ∉ l) :
    replaceRef l old new = l := by
  simp [replaceRef, h]

/-- the new ECU list computed by `renameEcu` -/
def setFirst (l : List String) (old new : String) : List String :=
  match l.idxOf? old with
  | some i => l.set i new
  | none => l

theorem setFirst_append (l₁ l₂ : List String) {old : String} (new : String) (h : old ∉ l₁) :
    setFirst (l₁ ++ old :: l₂) old new = l₁ ++ new :: l₂ := by
  have : (l₁ ++ old :: l₂).idxOf? old = some l₁.length :=
    List.idxOf?_eq_some_iff.mpr ⟨by simp, by simp, fun j hj => by
      rw [List.getElem_append_left hj]
      exact fun e => h (e ▸ List.getElem_mem hj)⟩
  simp [setFirst, this]

theorem length_setFirst (l : List String) (old new : String) :
    (setFirst l old new).length = l.length := by
  unfold setFirst
  split <;> simp

theorem mem_setFirst {l : List String} {old new x : String} (hnd : l.Nodup) (ho : old ∈ l) :
    x ∈ setFirst l old new ↔ x = new ∨ (x ≠ old ∧ x ∈ l) := by
  obtain ⟨l₁, l₂, rfl, h₁⟩ := List.eq_append_cons_of_mem ho
  have h₂ : old ∉ l₂ := fun h => by simp [List.nodup_append, h] at hnd
  rw [setFirst_append l₁ l₂ new h₁]
  by_cases hx : x = old
  · subst hx
    simp [h₁, h₂]
  · simp [hx, or_left_comm]

theorem nodup_setFirst {l : List String} {old new : String} (hnd : l.Nodup) (hn : new ∉ l) :
    (setFirst l old new).Nodup := by
  by_cases ho : old ∈ l
  · obtain ⟨l₁, l₂, rfl, h₁⟩ := List.eq_append_cons_of_mem ho
    rw [setFirst_append l₁ l₂ new h₁]
    rw [List.perm_middle.nodup_iff, List.nodup_cons] at hnd ⊢
    exact ⟨fun h => hn (List.perm_middle.mem_iff.mpr (List.mem_cons_of_mem old h)), hnd.2⟩
  · simp [setFirst, List.idxOf?_eq_none_iff.mpr ho, hnd]

/-- the frame transformation of `renameEcu` -/
def renFrame (old new : String) (f : EFrame) : EFrame :=
  ({ f with transmitters := replaceRef f.transmitters old new,
            sigs := f.sigs.map fun s => { s with receivers := replaceRef s.receivers old new } } : EFrame).updateReceiver

theorem renameEcu_of_not_mem {m : EMat} {old new : String} (h : old ∉ m.ecus) :
    m.renameEcu old new = m := by
  simp [EMat.renameEcu, h]

theorem renameEcu_of_mem {m : EMat} {old new : String} (h : old ∈ m.ecus) :
    m.renameEcu old new =
      { ecus := setFirst m.ecus old new, frames := m.frames.map (renFrame old new), freeSigs := m.freeSigs } := by
  unfold EMat.renameEcu
  rw [if_neg (by simpa using h)]
  rfl

/-- the frame transformation of `delOne` -/
def delFrame (n : String) (f : EFrame) : EFrame :=
  ({ f with transmitters := f.transmitters.erase n,
            sigs := f.sigs.map fun s => { s with receivers := s.receivers.erase n } } : EFrame).updateReceiver

theorem delOne_of_not_mem {m : EMat} {n : String} (h : n ∉ m.ecus) : m.delOne n = m := by
  simp [EMat.delOne, h]

theorem delOne_of_mem {m : EMat} {n : String} (h : n ∈ m.ecus) :
    m.delOne n = { ecus := m.ecus.erase n, frames := m.frames.map (delFrame n), freeSigs := m.freeSigs } := by
  unfold EMat.delOne
  rw [if_neg (by simpa using h)]
  rfl

theorem delOne_ecus (m : EMat) (n : String) : (m.delOne n).ecus = m.ecus.erase n := by
  by_cases h : n ∈ m.ecus
  · rw [delOne_of_mem h]
  · rw [delOne_of_not_mem h, List.erase_of_not_mem h]

theorem delOne_freeSigs (m : EMat) (n : String) : (m.delOne n).freeSigs = m.freeSigs := by
  by_cases h : n ∈ m.ecus
  · rw [delOne_of_mem h]
  · rw [delOne_of_not_mem h]

theorem delEcuGlob_ecus (m : EMat) (p : String) :
    (m.delEcuGlob p).ecus = m.ecus.filter (fun e => !globMatch p e) := by
  rw [EMat.delEcuGlob, ← List.foldl_hom EMat.ecus fun b n => (delOne_ecus b n).symm, foldl_erase_filter]

theorem delEcuGlob_freeSigs (m : EMat) (p : String) : (m.delEcuGlob p).freeSigs = m.freeSigs :=
  List.foldlRecOn (motive := fun b => b.freeSigs = m.freeSigs) _ EMat.delOne rfl
    fun b hb n _ => (delOne_freeSigs b n).trans hb

theorem addEcu_eq (m : EMat) (n : String) : m.addEcu n = { m with ecus := addIfAbsent m.ecus n } := by
  unfold EMat.addEcu addIfAbsent
  split <;> rfl

theorem foldl_addEcu (l : List String) (m : EMat) :
    l.foldl EMat.addEcu m = { m with ecus := l.foldl addIfAbsent m.ecus } :=
  List.foldl_hom (fun e => { m with ecus := e }) fun e n => addEcu_eq { m with ecus := e } n

theorem foldl2_addEcu (sigs : List ESig) (m : EMat) :
    sigs.foldl (fun a s => s.receivers.foldl EMat.addEcu a) m = { m with ecus := recvFold sigs m.ecus } :=
  List.foldl_hom (fun e => { m with ecus := e }) fun e s => foldl_addEcu s.receivers { m with ecus := e }

/-- what one frame adds to the ECU list in `updateEcuList` -/
def ecuStep (e : List String) (f : EFrame) : List String :=
  recvFold f.sigs (f.transmitters.foldl addIfAbsent e)

/-- the loop body of `updateEcuList` -/
def updStep (acc : EMat × List EFrame) (f : EFrame) : EMat × List EFrame :=
  let a1 := f.transmitters.foldl EMat.addEcu acc.1
  let f' := f.updateReceiver
  let a2 := f'.sigs.foldl (fun a s => s.receivers.foldl EMat.addEcu a) a1
  (a2, acc.2 ++ [f'])

theorem updStep_eq (a : EMat) (out : List EFrame) (f : EFrame) :
    updStep (a, out) f = ({ a with ecus := ecuStep a.ecus f }, out ++ [f.updateReceiver]) := by
  simp only [updStep, updateReceiver_sigs]
  rw [foldl2_addEcu, foldl_addEcu]
  rfl

theorem updateEcuList_fold (fs : List EFrame) (a : EMat) (out : List EFrame) :
    fs.foldl updStep (a, out) =
    ({ a with ecus := fs.foldl ecuStep a.ecus }, out ++ fs.map EFrame.updateReceiver) := by
  induction fs generalizing a out with
  | nil => simp
  | cons f fs ih => rw [List.foldl_cons, updStep_eq, ih]; simp

theorem updateEcuList_eq (m : EMat) :
    m.updateEcuList =
      { ecus := m.frames.foldl ecuStep m.ecus, frames := m.frames.map EFrame.updateReceiver,
        freeSigs := m.freeSigs } := by
  show ({ (m.frames.foldl updStep (m, [])).1 with frames := (m.frames.foldl updStep (m, [])).2 } : EMat) = _
  rw [updateEcuList_fold, List.nil_append]

theorem adds_ecuStep :
    Adds ecuStep (fun f x => x ∈ f.transmitters ∨ ∃ s ∈ f.sigs, x ∈ s.receivers) where
  pre e f := (adds_foldl_addIfAbsent.pre e f.transmitters).trans (adds_recvFold.pre _ f.sigs)
  nodup f h := adds_recvFold.nodup f.sigs (adds_foldl_addIfAbsent.nodup f.transmitters h)
  mem := by simp only [ecuStep, adds_recvFold.mem, adds_foldl_addIfAbsent.mem, or_assoc, implies_true]

theorem adds_foldl_ecuStep :
    Adds (fun e (fs : List EFrame) => fs.foldl ecuStep e)
      (fun fs x => ∃ f ∈ fs, x ∈ f.transmitters ∨ ∃ s ∈ f.sigs, x ∈ s.receivers) :=
  adds_ecuStep.foldl id

theorem prefix_foldl_ecuStep (fs : List EFrame) (e : List String) : e <+: fs.foldl ecuStep e :=
  adds_foldl_ecuStep.pre e fs

/-- the list of all referenced names computed by `deleteObsoleteEcus` -/
def usedList (m : EMat) : List String :=
  m.frames.flatMap (·.transmitters) ++ m.frames.flatMap (·.receivers) ++
    m.frames.flatMap (fun f => f.sigs.flatMap (·.receivers)) ++ m.freeSigs.flatMap (·.receivers)

theorem deleteObsoleteEcus_def (m : EMat) :
    m.deleteObsoleteEcus =
      (m.ecus.filter fun e => !(usedList m).contains e).foldl EMat.delEcuGlob m := rfl

theorem foldl_delEcuGlob_ecus (us : List String) (m : EMat)
    (hplain : ∀ e ∈ us, ∀ n, globMatch e n = (e == n)) :
    (us.foldl EMat.delEcuGlob m).ecus = m.ecus.filter (fun x => !us.contains x) := by
  induction us generalizing m with
  | nil => exact (List.filter_eq_self.mpr fun _ _ => rfl).symm
  | cons e us ih =>
    rw [List.foldl_cons, ih _ (fun e' he' => hplain e' (List.mem_cons_of_mem _ he')), delEcuGlob_ecus,
      List.filter_filter]
    refine List.filter_congr fun x _ => ?_
    rw [hplain e List.mem_cons_self x, List.contains_cons, Bool.not_or, Bool.and_comm, BEq.comm]

end CanVerif.EcuOps
