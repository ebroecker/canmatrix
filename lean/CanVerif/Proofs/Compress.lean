import CanVerif.Model.Layout
import CanVerif.Proofs.Layout
/-!
`Frame.compress` on frames of one byte order (C16).  Both loops of the Python code repeat one round: walk through the usage map in
the numbering of `Occ`, find the first unused position and the first signal behind it, move that signal down to the unused
position.  The Motorola and the Intel round differ in how the usage map is indexed and in what the walk remembers of the unused
run (where it starts / how long it is): the walk has a variable memory (`gapScan`), the loop a variable round function (`GapRound`).
-/
namespace CanVerif

/-- what `C16.compressibleBig` (`L = false`) and `C16L.compressibleLittle` (`L = true`) write out -/
def Packable (L : Bool) (f : Frame) : Prop :=
  (∀ s ∈ f.sigs, s.little = L ∧ 1 ≤ s.size ∧ s.start + s.size ≤ 8 * f.size) ∧ (f.sigs.map (·.name)).Nodup ∧
  (∀ a ∈ f.sigs, ∀ b ∈ f.sigs, a.name ≠ b.name → ∀ j, ¬ (Occ a j ∧ Occ b j))

/-- in the numbering of `Occ` -/
def NoGap (f : Frame) : Prop := ∀ s ∈ f.sigs, ∀ j, j < s.start → ∃ t ∈ f.sigs, Occ t j

def OrdKept (f g : Frame) : Prop :=
  ∀ a ∈ f.sigs, ∀ b ∈ f.sigs, a.start < b.start →
    ∀ a' ∈ g.sigs, ∀ b' ∈ g.sigs, a'.name = a.name → b'.name = b.name → a'.start < b'.start

theorem OrdKept.refl (f : Frame) (hnd : (f.sigs.map (·.name)).Nodup) : OrdKept f f := by
  intro a ha b hb hab a' ha' b' hb' hna hnb
  rw [name_inj hnd ha' ha hna, name_inj hnd hb' hb hnb]
  exact hab

theorem OrdKept.trans {f m g : Frame} (h1 : OrdKept f m) (h2 : OrdKept m g)
    (hn : m.sigs.map (·.name) = f.sigs.map (·.name)) : OrdKept f g := by
  intro a ha b hb hab a' ha' b' hb' hna hnb
  have hma : a.name ∈ m.sigs.map (·.name) := by rw [hn]; exact List.mem_map.2 ⟨a, ha, rfl⟩
  have hmb : b.name ∈ m.sigs.map (·.name) := by rw [hn]; exact List.mem_map.2 ⟨b, hb, rfl⟩
  obtain ⟨a2, ha2, hna2⟩ := List.mem_map.1 hma
  obtain ⟨b2, hb2, hnb2⟩ := List.mem_map.1 hmb
  have := h1 a ha b hb hab a2 ha2 b2 hb2 hna2 hnb2
  exact h2 a2 ha2 b2 hb2 this a' ha' b' hb' (hna.trans hna2.symm) (hnb.trans hnb2.symm)

abbrev ScanAcc := Option Nat × Option (String × Nat)

/-- `c` is the cell at position `p`.  The first component remembers the unused run: `first p` when it starts at `p`, `more g` with
every further unused cell; the second is the result: the first name in the first used cell behind the run, with the memory of then. -/
def gapStep (first more : Nat → Nat) (acc : ScanAcc) (p : Nat) (c : List String) : ScanAcc :=
  match acc.2 with
  | some _ => acc
  | none =>
    match c with
    | [] => (match acc.1 with | none => (some (first p), none) | some g => (some (more g), none))
    | nm :: _ => (match acc.1 with | some g => (acc.1, some (nm, g)) | none => acc)

def gapScan (first more : Nat → Nat) (cell : Nat → List String) (n : Nat) : ScanAcc :=
  (List.range n).foldl (fun acc p => gapStep first more acc p (cell p)) (none, none)

/-- Loop invariant of the walk after the positions `0 … k-1`.  `enc fs k` is what the walk remembers at `k` of an unused
run that started at `fs`. -/
def GapInv (enc : Nat → Nat → Nat) (cell : Nat → List String) (k : Nat) : ScanAcc → Prop
  | (_, some (nm, a)) => ∃ fs q, fs < q ∧ q < k ∧ a = enc fs q ∧
      (∀ i, i < q → fs ≤ i → cell i = []) ∧ ∃ rest, cell q = nm :: rest
  | (none, none) => ∀ i, i < k → cell i ≠ []
  | (some a, none) => ∃ fs, fs < k ∧ a = enc fs k ∧ (∀ i, i < fs → cell i ≠ []) ∧ (∀ i, i < k → fs ≤ i → cell i = [])

section
variable {first more : Nat → Nat} {enc : Nat → Nat → Nat} (cell : Nat → List String)
  (hfirst : ∀ p, enc p (p + 1) = first p) (hmore : ∀ fs k, fs < k → enc fs (k + 1) = more (enc fs k))
include hfirst hmore

theorem gapStep_inv (k : Nat) (acc : ScanAcc) (h : GapInv enc cell k acc) :
    GapInv enc cell (k + 1) (gapStep first more acc k (cell k)) := by
  rcases acc with ⟨a1, a2⟩
  cases a2 with
  | some r =>
    obtain ⟨fs, q, hlt, hq, hrest⟩ := h
    exact ⟨fs, q, hlt, by omega, hrest⟩
  | none =>
    cases a1 with
    | none =>
      cases hc : cell k with
      | nil => exact ⟨k, by omega, (hfirst k).symm, h, fun i hik hki => (show i = k by omega) ▸ hc⟩
      | cons x xs => exact Nat.forall_lt_succ_right.2 ⟨h, by rw [hc]; exact List.cons_ne_nil x xs⟩
    | some a =>
      obtain ⟨fs, hlt, henc, hused, hrun⟩ := h
      cases hc : cell k with
      | nil => exact ⟨fs, by omega, by rw [hmore fs k hlt, henc], hused, Nat.forall_lt_succ_right.2 ⟨hrun, fun _ => hc⟩⟩
      | cons x xs => exact ⟨fs, k, hlt, by omega, henc, hrun, xs, hc⟩

theorem gapScan_inv (n : Nat) : GapInv enc cell n (gapScan first more cell n) := by
  induction n with
  | zero => exact fun i hi => absurd hi (Nat.not_lt_zero i)
  | succ n ih =>
    unfold gapScan
    rw [List.range_succ, List.foldl_append]
    exact gapStep_inv cell hfirst hmore n _ ih

/-- in `GapInv`: `fs` is where the unused run starts, `q` the first used position behind it, `nm` the first name there -/
theorem gapScan_some (n : Nat) (nm : String) (a : Nat) (h : (gapScan first more cell n).2 = some (nm, a)) :
    GapInv enc cell n ((gapScan first more cell n).1, some (nm, a)) := by
  rw [← h]
  exact gapScan_inv cell hfirst hmore n

theorem gapScan_none (n : Nat) (h : (gapScan first more cell n).2 = none) (i p : Nat) (hip : i < p) (hp : p < n)
    (hi : cell i = []) : cell p = [] := by
  have hv := gapScan_inv cell hfirst hmore n
  rcases hr : gapScan first more cell n with ⟨a1, a2⟩
  rw [hr] at hv h
  cases h
  cases a1 with
  | none => exact absurd hi (hv i (by omega))
  | some g =>
    obtain ⟨fs, _, _, hused, hrun⟩ := hv
    have hfi : fs ≤ i := Nat.le_of_not_lt fun hlt => hused i hlt hi
    exact hrun p hp (by omega)

end

def UsageMap (f : Frame) (cell : Nat → List String) : Prop :=
  ∀ p, p < 8 * f.size → ∀ x, x ∈ cell p ↔ ∃ s ∈ f.sigs, s.name = x ∧ Occ s p

theorem UsageMap.nil_iff {f : Frame} {cell : Nat → List String} (hu : UsageMap f cell) (p : Nat) (hp : p < 8 * f.size) :
    cell p = [] ↔ ∀ s ∈ f.sigs, ¬ Occ s p := by
  rw [List.eq_nil_iff_forall_not_mem]
  constructor
  · intro h s hs ho
    exact h s.name ((hu p hp _).2 ⟨s, hs, rfl, ho⟩)
  · intro h x hx
    obtain ⟨s, hs, _, ho⟩ := (hu p hp x).1 hx
    exact h s hs ho

/-- what `setStartOf` does to each signal when names are unique (`setStartOf_eq_map`) -/
def moveSig (nm : String) (v : Nat) (t : Sig) : Sig := if t.name = nm then { t with start := v } else t

theorem moveSig_name (nm : String) (v : Nat) (t : Sig) : (moveSig nm v t).name = t.name := by
  unfold moveSig; split <;> rfl

theorem moveSig_of_ne {nm : String} (v : Nat) {t : Sig} (h : t.name ≠ nm) : moveSig nm v t = t := if_neg h

theorem moveSig_self (v : Nat) (s : Sig) : moveSig s.name v s = { s with start := v } := if_pos rfl

theorem map_name_moveSig (sigs : List Sig) (nm : String) (v : Nat) :
    (sigs.map (moveSig nm v)).map (·.name) = sigs.map (·.name) := by
  rw [List.map_map]
  exact List.map_congr_left fun t _ => moveSig_name nm v t

theorem setStartOf_eq_map (sigs : List Sig) (hnd : (sigs.map (·.name)).Nodup) (s : Sig) (hs : s ∈ sigs) (gf : Nat → Nat) :
    setStartOf sigs s.name gf = sigs.map (moveSig s.name (gf s.start)) := by
  induction sigs with
  | nil => rfl
  | cons a l ih =>
    have hnd' := List.nodup_cons.1 hnd
    unfold setStartOf
    by_cases h : a.name = s.name
    · obtain rfl : a = s := name_inj hnd List.mem_cons_self hs h
      have hl : ∀ t ∈ l, moveSig a.name (gf a.start) t = t := fun t ht =>
        moveSig_of_ne _ fun e => hnd'.1 (List.mem_map.2 ⟨t, ht, e⟩)
      rw [if_pos (beq_self_eq_true _), List.map_cons, List.map_congr_left hl, List.map_id', moveSig_self]
    · have hs' : s ∈ l := (List.mem_cons.1 hs).resolve_left fun e => h (e ▸ rfl)
      rw [if_neg (by simpa using h), List.map_cons, ih hnd'.2 hs', moveSig_of_ne _ h]

/-- the measure by which the loops end: every round lowers one start -/
def startSum (sigs : List Sig) : Nat := (sigs.map (·.start)).sum

theorem startSum_map_lt (h : Sig → Sig) (sigs : List Sig) (hle : ∀ t ∈ sigs, (h t).start ≤ t.start) :
    startSum (sigs.map h) ≤ startSum sigs ∧
      ∀ s ∈ sigs, (h s).start < s.start → startSum (sigs.map h) < startSum sigs := by
  induction sigs with
  | nil => exact ⟨Nat.le_refl _, fun _ hs => absurd hs List.not_mem_nil⟩
  | cons a l ih =>
    obtain ⟨h1, h2⟩ := ih fun t ht => hle t (List.mem_cons_of_mem a ht)
    have ha := hle a List.mem_cons_self
    simp only [startSum, List.map_cons, List.sum_cons] at h1 h2 ⊢
    refine ⟨by omega, fun s hs hlt => ?_⟩
    rcases List.mem_cons.1 hs with rfl | hs
    · omega
    · have := h2 s hs hlt
      omega

theorem startSum_le (sigs : List Sig) (N : Nat) (h : ∀ s ∈ sigs, s.start ≤ N) : startSum sigs ≤ N * sigs.length := by
  induction sigs with
  | nil => exact Nat.le_refl 0
  | cons a l ih =>
    have h1 := h a List.mem_cons_self
    have h2 := ih fun s hs => h s (List.mem_cons_of_mem a hs)
    simp only [startSum, List.map_cons, List.sum_cons, List.length_cons, Nat.mul_succ] at h2 ⊢
    omega

/-- `f'` is `f` with one signal `s` moved down to `fs`, over positions no signal uses: what a round of either loop does -/
def ClosesGap (f f' : Frame) : Prop :=
  ∃ s fs, s ∈ f.sigs ∧ fs < s.start ∧
    (∀ i, fs ≤ i → i < s.start → ∀ t ∈ f.sigs, ¬ Occ t i) ∧ f' = { f with sigs := f.sigs.map (moveSig s.name fs) }

theorem ClosesGap.keeps {L : Bool} {f f' : Frame} (hf : Packable L f) (h : ClosesGap f f') :
    Packable L f' ∧ f'.sigs.map (·.name) = f.sigs.map (·.name) ∧ OrdKept f f' ∧ startSum f'.sigs < startSum f.sigs := by
  obtain ⟨s, fs, hs, hlt, hfree, rfl⟩ := h
  obtain ⟨hin, hnd, hov⟩ := hf
  have hsin := hin s hs
  -- a signal of `f` is `s` and moves, or has another name and stays
  have hmv : ∀ t ∈ f.sigs, (t = s ∧ moveSig s.name fs t = { s with start := fs }) ∨ (t.name ≠ s.name ∧ moveSig s.name fs t = t) := by
    intro t ht
    by_cases hn : t.name = s.name
    · obtain rfl := name_inj hnd ht hs hn
      exact Or.inl ⟨rfl, moveSig_self fs t⟩
    · exact Or.inr ⟨hn, moveSig_of_ne fs hn⟩
  -- where a moved signal can be
  have hocc : ∀ t ∈ f.sigs, ∀ j, Occ (moveSig s.name fs t) j → Occ t j ∨ (t.name = s.name ∧ fs ≤ j ∧ j < s.start) := by
    intro t ht j ho
    rcases hmv t ht with ⟨rfl, e⟩ | ⟨_, e⟩
    · rw [e] at ho
      by_cases hj : j < t.start
      · exact Or.inr ⟨rfl, ho.1, hj⟩
      · exact Or.inl (by simp only [Occ] at ho ⊢; omega)
    · rw [e] at ho
      exact Or.inl ho
  have hle : ∀ t ∈ f.sigs, (moveSig s.name fs t).start ≤ t.start := by
    intro t ht
    rcases hmv t ht with ⟨rfl, e⟩ | ⟨_, e⟩
    · rw [e]
      exact Nat.le_of_lt hlt
    · rw [e]
      exact Nat.le_refl _
  refine ⟨⟨?_, ?_, ?_⟩, map_name_moveSig _ _ _, ?_, ?_⟩
  · refine List.forall_mem_map.2 fun t ht => ?_
    rcases hmv t ht with ⟨rfl, e⟩ | ⟨_, e⟩
    · rw [e]
      exact ⟨hsin.1, hsin.2.1, show fs + t.size ≤ 8 * f.size by omega⟩
    · rw [e]
      exact hin t ht
  · exact (map_name_moveSig f.sigs s.name fs).symm ▸ hnd
  · intro a' ha' b' hb' hne j ⟨hoa, hob⟩
    obtain ⟨a, ha, rfl⟩ := List.mem_map.1 ha'
    obtain ⟨b, hb, rfl⟩ := List.mem_map.1 hb'
    rw [moveSig_name, moveSig_name] at hne
    rcases hocc a ha j hoa with h1 | ⟨h1, h2, h3⟩
    · rcases hocc b hb j hob with h4 | ⟨_, h5, h6⟩
      · exact hov a ha b hb hne j ⟨h1, h4⟩
      · exact hfree j h5 h6 a ha h1
    · rcases hocc b hb j hob with h4 | ⟨h4, _, _⟩
      · exact hfree j h2 h3 b hb h4
      · exact hne (h1.trans h4.symm)
  · intro a ha b hb hab a' ha' b' hb' hna hnb
    obtain ⟨a0, ha0, rfl⟩ := List.mem_map.1 ha'
    obtain ⟨b0, hb0, rfl⟩ := List.mem_map.1 hb'
    rw [moveSig_name] at hna hnb
    obtain rfl := name_inj hnd ha0 ha hna
    obtain rfl := name_inj hnd hb0 hb hnb
    rcases hmv b0 hb0 with ⟨rfl, e⟩ | ⟨_, e⟩
    · -- `b0` moves down to `fs`: `a0` starts below `b0` and not on an unused position, so below `fs`
      rw [e]
      have : a0.start < fs := Nat.lt_of_not_le fun hc =>
        hfree a0.start hc hab a0 ha0 ⟨Nat.le_refl _, by have := (hin a0 ha0).2.1; omega⟩
      exact Nat.lt_of_le_of_lt (hle a0 ha0) this
    · rw [e]
      exact Nat.lt_of_le_of_lt (hle a0 ha0) hab
  · exact (startSum_map_lt _ _ hle).2 s hs (by rw [moveSig_self]; exact hlt)

/-- `step` is one round of a compress loop for the byte order `L`: it closes a gap, or there is none -/
structure GapRound (L : Bool) (step : Frame → Option Frame) : Prop where
  closes : ∀ f f', Packable L f → step f = some f' → ClosesGap f f'
  done : ∀ f, Packable L f → step f = none → NoGap f

theorem iterStep_rel {step : Frame → Option Frame} {R : Frame → Frame → Prop} (hnone : ∀ a, step a = none → R a a)
    (hsome : ∀ a b c, step a = some b → R b c → R a c) (fuel : Nat) (a b : Frame) (h : iterStep step fuel a = .ok b) :
    R a b := by
  induction fuel generalizing a with
  | zero => cases h
  | succ k ih =>
    unfold iterStep at h
    split at h
    · rename_i hstep
      cases h
      exact hnone _ hstep
    · rename_i a' hstep
      exact hsome a a' b hstep (ih a' h)

theorem GapRound.iter {L : Bool} {step : Frame → Option Frame} (hr : GapRound L step) (fuel : Nat) (f g : Frame)
    (hf : Packable L f) (h : iterStep step fuel f = .ok g) :
    Packable L g ∧ step g = none ∧ g.sigs.map (·.name) = f.sigs.map (·.name) ∧ OrdKept f g := by
  refine iterStep_rel (R := fun f g => Packable L f → Packable L g ∧ step g = none ∧
    g.sigs.map (·.name) = f.sigs.map (·.name) ∧ OrdKept f g) ?_ ?_ fuel f g h hf
  · intro a hstep ha
    exact ⟨ha, hstep, rfl, OrdKept.refl _ ha.2.1⟩
  · intro a b c hstep ih ha
    obtain ⟨hb, hn, ho, _⟩ := (hr.closes a b ha hstep).keeps ha
    obtain ⟨h1, h2, h3, h4⟩ := ih hb
    exact ⟨h1, h2, h3.trans hn, OrdKept.trans ho h4 hn⟩

theorem GapRound.terminates {L : Bool} {step : Frame → Option Frame} (hr : GapRound L step) (fuel : Nat) (f : Frame)
    (hf : Packable L f) (hfuel : startSum f.sigs < fuel) : ∃ g, iterStep step fuel f = .ok g := by
  induction fuel generalizing f with
  | zero => omega
  | succ k ih =>
    unfold iterStep
    cases hstep : step f with
    | none => exact ⟨f, rfl⟩
    | some f' =>
      obtain ⟨hc, _, _, hlt⟩ := (hr.closes f f' hf hstep).keeps hf
      exact ih f' hc (by omega)

/-- the signal the walk names gets the start `g a st`: `a` is what the walk remembered, `st` the old start -/
def moveTo (g : Nat → Nat → Nat) (f : Frame) : Option (String × Nat) → Option Frame
  | some (nm, a) => some { f with sigs := setStartOf f.sigs nm (g a) }
  | none => none

/-- `sh`: anything of a signal that does not depend on its start -/
theorem moveTo_shape {β : Type} (sh : Sig → β) (hsh : ∀ (s : Sig) (n : Nat), sh { s with start := n } = sh s)
    {g : Nat → Nat → Nat} {r : Option (String × Nat)} {a b : Frame} (h : moveTo g a r = some b) :
    b.sigs.map sh = a.sigs.map sh ∧ b.size = a.size := by
  cases r with
  | none => cases h
  | some r =>
    cases h
    refine ⟨?_, rfl⟩
    show (setStartOf a.sigs r.1 (g r.2)).map sh = a.sigs.map sh
    generalize a.sigs = sigs
    induction sigs with
    | nil => rfl
    | cons s t ih =>
      unfold setStartOf
      split
      · rw [List.map_cons, List.map_cons, hsh]
      · rw [List.map_cons, List.map_cons, ih]

/-- `hg`: the move puts the signal where the unused run began -/
theorem gapRound_of_walk {L : Bool} {step : Frame → Option Frame} {first more : Nat → Nat} {enc g : Nat → Nat → Nat}
    {cell : Frame → Nat → List String}
    (hfirst : ∀ p, enc p (p + 1) = first p) (hmore : ∀ fs k, fs < k → enc fs (k + 1) = more (enc fs k))
    (hg : ∀ fs q, fs < q → g (enc fs q) q = fs)
    (hstep : ∀ f, step f = moveTo g f (gapScan first more (cell f) (8 * f.size)).2)
    (hu : ∀ f, (∀ s ∈ f.sigs, s.little = L) → UsageMap f (cell f)) : GapRound L step where
  closes f f' hf h := by
    have hu := hu f fun s hs => (hf.1 s hs).1
    rw [hstep] at h
    cases hsc : (gapScan first more (cell f) (8 * f.size)).2 with
    | none => rw [hsc] at h; cases h
    | some r =>
      rw [hsc] at h
      cases h
      obtain ⟨fs, q, hq1, hq2, ha, hrun, rest, hq⟩ := gapScan_some (cell f) hfirst hmore _ r.1 r.2 hsc
      obtain ⟨s, hs, hn, ho1, ho2⟩ := (hu q hq2 r.1).1 (by rw [hq]; exact List.mem_cons_self)
      have hfree : ∀ i, fs ≤ i → i < q → ∀ t ∈ f.sigs, ¬ Occ t i := fun i h1 h2 =>
        (hu.nil_iff i (by omega)).1 (hrun i h2 h1)
      -- `s` covers `q`; if it started earlier it would also cover the unused position `q - 1`
      have hstart : s.start = q := Nat.le_antisymm ho1 (Nat.le_of_not_lt fun hlt =>
        hfree (q - 1) (by omega) (by omega) s hs (by unfold Occ; omega))
      subst hstart
      refine ⟨s, fs, hs, hq1, hfree, ?_⟩
      show Frame.mk .. = _
      rw [← hn, ha, setStartOf_eq_map _ hf.2.1 s hs, hg fs _ hq1]
  done f hf h := by
    have hu := hu f fun s hs => (hf.1 s hs).1
    rw [hstep] at h
    cases hsc : (gapScan first more (cell f) (8 * f.size)).2 with
    | some r => rw [hsc] at h; cases h
    | none =>
      intro s hs j hj
      have hsin := hf.1 s hs
      -- an unused position below `s` would be followed by the used position `s.start`
      apply Classical.byContradiction; intro hno
      have hnil : cell f j = [] := (hu.nil_iff j (by omega)).2 fun t ht ho => hno ⟨t, ht, ho⟩
      have := gapScan_none (cell f) hfirst hmore _ hsc j s.start hj (by omega) hnil
      exact (hu.nil_iff s.start (by omega)).1 this s hs ⟨Nat.le_refl _, by omega⟩

/-! ### the Motorola round: the usage map as it is, the walk remembers where the unused run starts -/

theorem compressBigStep_eq (f : Frame) :
    compressBigStep f = moveTo (fun fs _ => fs) f (gapScan id id (fun p => f.layout.getD p []) (8 * f.size)).2 := by
  unfold compressBigStep gapScan
  simp only []
  rw [zip_range_eq_map f.layout [], List.foldl_map, length_layout]
  change moveTo (fun fs _ => fs) f _ = _
  congr 3
  funext acc p
  generalize f.layout.getD p [] = c
  -- the model writes `acc` where `gapStep` writes `(some g, none)`: equal in each case of the state (2 × 2) and the cell (2)
  rcases acc with ⟨_ | _, _ | _⟩ <;> cases c <;> rfl

theorem usageMap_big (f : Frame) (hbig : ∀ s ∈ f.sigs, s.little = false) : UsageMap f fun p => f.layout.getD p [] := by
  intro p hp x
  rw [layout_mem f p hp]
  refine exists_congr fun s => and_congr_right fun hs => ?_
  rw [hbig s hs, if_neg Bool.false_ne_true]

theorem gapRound_big : GapRound false compressBigStep :=
  gapRound_of_walk (enc := fun fs _ => fs) (fun _ => rfl) (fun _ _ _ => rfl) (fun _ _ _ => rfl) compressBigStep_eq usageMap_big

/-! ### the Intel round (`_compress_little`): the usage map in the order of the Intel numbering, the walk counts the unused run -/

/-- `_compress_little` visits the usage map byte by byte and inside a byte from index 7 down to 0 -/
theorem visitOrder_eq_map_flipN (m : Nat) :
    ((List.range m).flatMap fun byte => (List.range 8).map fun k => byte * 8 + (7 - k))
      = (List.range (8 * m)).map flipN := by
  induction m with
  | zero => rfl
  | succ m ih =>
    rw [show List.range (m + 1) = List.range m ++ [m] from List.range_succ, List.flatMap_append, ih,
      show 8 * (m + 1) = 8 * m + 8 by omega, List.range_add, List.map_append, List.map_map]
    congr 1
    simp only [List.flatMap_cons, List.flatMap_nil, List.append_nil]
    apply List.map_congr_left
    intro k hk
    have hk8 : k < 8 := List.mem_range.1 hk
    show m * 8 + (7 - k) = 8 * ((8 * m + k) / 8) + 7 - (8 * m + k) % 8
    rw [Nat.mul_add_div (by decide), Nat.mul_add_mod, Nat.div_eq_of_lt hk8, Nat.mod_eq_of_lt hk8]
    omega

theorem compressLittleStep_eq (f : Frame) :
    compressLittleStep f = moveTo (fun g st => st - g) f
      (gapScan (fun _ => 1) (· + 1) (fun p => f.layout.getD (flipN p) []) (8 * f.size)).2 := by
  have hl : 8 * (f.layout.length / 8) = 8 * f.size := by rw [length_layout]; omega
  unfold compressLittleStep gapScan
  simp only []
  rw [visitOrder_eq_map_flipN, hl, List.foldl_map]
  rfl

theorem usageMap_little (f : Frame) (hlit : ∀ s ∈ f.sigs, s.little = true) :
    UsageMap f fun p => f.layout.getD (flipN p) [] := by
  intro p hp x
  rw [layout_mem f (flipN p) (flipN_lt hp)]
  refine exists_congr fun s => and_congr_right fun hs => ?_
  rw [hlit s hs, if_pos rfl, flipN_flipN]

theorem gapRound_little : GapRound true compressLittleStep :=
  gapRound_of_walk (enc := fun fs k => k - fs) (fun p => by omega) (fun fs k h => by omega) (fun fs q h => by omega)
    compressLittleStep_eq usageMap_little

/-- on every frame, of one byte order or not -/
theorem compress_shape {β : Type} (sh : Sig → β) (hsh : ∀ (s : Sig) (n : Nat), sh { s with start := n } = sh s)
    (f g : Frame) (h : f.compress = .ok g) : g.sigs.map sh = f.sigs.map sh ∧ g.size = f.size := by
  have hiter : ∀ step : Frame → Option Frame,
      (∀ a b, step a = some b → b.sigs.map sh = a.sigs.map sh ∧ b.size = a.size) →
      ∀ fuel, iterStep step fuel f = .ok g → g.sigs.map sh = f.sigs.map sh ∧ g.size = f.size :=
    fun step hstep fuel => iterStep_rel (R := fun a b => b.sigs.map sh = a.sigs.map sh ∧ b.size = a.size)
      (fun _ _ => ⟨rfl, rfl⟩) (fun a b c hab hbc => by
        obtain ⟨hsigs, hsize⟩ := hstep a b hab
        exact ⟨hbc.1.trans hsigs, hbc.2.trans hsize⟩) fuel f g
  unfold Frame.compress at h
  simp only at h
  split at h
  · split at h
    · cases h
      exact ⟨rfl, rfl⟩
    · exact hiter _ (fun a b hab => moveTo_shape sh hsh (compressLittleStep_eq a ▸ hab)) _ h
  · exact hiter _ (fun a b hab => moveTo_shape sh hsh (compressBigStep_eq a ▸ hab)) _ h

/-- a frame without signals goes the Motorola way, whatever `L` -/
theorem compress_eq_iter {L : Bool} {f : Frame} (hf : Packable L f) :
    ∃ L' step, GapRound L' step ∧ Packable L' f ∧ (L' = L ∨ f.sigs = []) ∧
      f.compress = iterStep step (8 * f.size * (f.sigs.length + 1) + 1) f := by
  unfold Frame.compress
  simp only []
  split
  · rename_i h1
    obtain ⟨s, hs, hl⟩ := List.any_eq_true.1 h1
    have hL : L = true := (hf.1 s hs).1.symm.trans hl
    subst hL
    have h2 : f.sigs.any (fun s => !s.little) = false :=
      List.any_eq_false.2 fun s hs => by simp [(hf.1 s hs).1]
    rw [if_neg (by simp [h2])]
    exact ⟨true, _, gapRound_little, hf, Or.inl rfl, rfl⟩
  · rename_i h1
    have hl : ∀ s ∈ f.sigs, s.little = false := fun s hs => by
      simpa using fun h => h1 (List.any_eq_true.2 ⟨s, hs, h⟩)
    refine ⟨false, _, gapRound_big, ⟨fun s hs => ⟨hl s hs, (hf.1 s hs).2⟩, hf.2⟩, ?_, rfl⟩
    cases L with
    | false => exact Or.inl rfl
    | true =>
      refine Or.inr (List.eq_nil_iff_forall_not_mem.2 fun s hs => ?_)
      exact Bool.false_ne_true ((hl s hs).symm.trans (hf.1 s hs).1)

theorem compress_packs (L : Bool) (f g : Frame) (hf : Packable L f) (h : f.compress = .ok g) :
    Packable L g ∧ NoGap g ∧ g.sigs.map (·.name) = f.sigs.map (·.name) ∧ OrdKept f g := by
  obtain ⟨L', step, hr, hf', hL, e⟩ := compress_eq_iter hf
  rw [e] at h
  obtain ⟨hg, hnone, hn, ho⟩ := hr.iter _ f g hf' h
  refine ⟨?_, hr.done g hg hnone, hn, ho⟩
  rcases hL with rfl | hnil
  · exact hg
  · have hgnil : g.sigs = [] := by rwa [hnil, List.map_nil, List.map_eq_nil_iff] at hn
    exact ⟨fun s hs => absurd (hgnil ▸ hs) List.not_mem_nil, hg.2.1, hg.2.2⟩

theorem compress_terminates (L : Bool) (f : Frame) (hf : Packable L f) : ∃ g, f.compress = .ok g := by
  obtain ⟨L', step, hr, hf', _, e⟩ := compress_eq_iter hf
  rw [e]
  have h := startSum_le f.sigs (8 * f.size) fun s hs => by have := hf'.1 s hs; omega
  exact hr.terminates _ f hf' (by rw [Nat.mul_succ]; omega)

end CanVerif
