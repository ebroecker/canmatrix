import CanVerif.Model.Codec
import CanVerif.Spec.Bits
import CanVerif.Spec.Codec
import CanVerif.Proofs.Bits
import CanVerif.Proofs.Dict
/-!
The model decodes by slicing strings of '0'/'1'; the specification speaks of bit addresses.  The bit
of address `k` stands at index `slot e n k` of the string for byte order `e`, so a signal's slice
denotes `specRaw`, and its value is `decodedValue` of that (`rawOf_eq_decodedValue`).
-/
namespace CanVerif

/-- the domain of the statements of C01, C02 and C19 (`Spec.insideFrame`, which the drivers run, as a `Prop`) -/
def inFrame (s : Sig) (nbytes : Nat) : Prop := s.start + s.size ≤ 8 * nbytes ∧ 1 ≤ s.size

theorem byteBits_len (b : Nat) : (byteBits b).length = 8 := by simp [byteBits]

theorem bigBits_len (p : List Nat) : (bigBits p).length = 8 * p.length := by
  induction p with
  | nil => simp [bigBits]
  | cons a t ih => simp [bigBits, List.flatMap_cons, byteBits_len] at *; omega

theorem littleBits_len (p : List Nat) : (littleBits p).length = 8 * p.length := by
  simp [littleBits, bigBits_len]

theorem payloadBit_flipN (p : List Nat) (j : Nat) :
    payloadBit p (flipN j) = (p.getD (j / 8) 0).testBit (7 - j % 8) := by
  rw [payloadBit, flipN_div, flipN_mod]

theorem bigBits_getElem? (p : List Nat) (q r : Nat) (hr : r < 8) :
    (bigBits p)[8 * q + r]? = p[q]?.map fun b => b.testBit (7 - r) := by
  induction p generalizing q with
  | nil => rfl
  | cons a t ih =>
    rw [bigBits, List.flatMap_cons]
    cases q with
    | zero =>
      rw [List.getElem?_append_left (by rw [byteBits_len]; omega)]
      simp [byteBits, hr]
    | succ q =>
      rw [List.getElem?_append_right (by rw [byteBits_len]; omega), byteBits_len,
        show 8 * (q + 1) + r - 8 = 8 * q + r by omega]
      exact ih q

theorem bigBits_getD (p : List Nat) (j : Nat) :
    (bigBits p).getD j false = payloadBit p (flipN j) := by
  rw [payloadBit_flipN, List.getD_eq_getElem?_getD, List.getD_eq_getElem?_getD]
  conv => lhs; rw [← Nat.div_add_mod j 8]
  rw [bigBits_getElem? _ _ _ (Nat.mod_lt _ (by decide))]
  cases p[j / 8]?
  · exact (Nat.zero_testBit _).symm
  · rfl

-- The bound is not needed: past the payload both sides are `false`.
set_option linter.unusedVariables false in
theorem bigBits_get (p : List Nat) (j : Nat) (h : j < 8 * p.length) :
    (bigBits p).getD j false = payloadBit p (flipN j) :=
  bigBits_getD p j

theorem payloadBit_reverse (p : List Nat) (k : Nat) (h : k < 8 * p.length) :
    payloadBit p.reverse k = payloadBit p (8 * (p.length - 1 - k / 8) + k % 8) := by
  unfold payloadBit
  have h1 : (8 * (p.length - 1 - k / 8) + k % 8) / 8 = p.length - 1 - k / 8 := by omega
  have h2 : (8 * (p.length - 1 - k / 8) + k % 8) % 8 = k % 8 := by omega
  rw [h1, h2]
  have hk : k / 8 < p.length := by omega
  simp [List.getD_eq_getElem?_getD, List.getElem?_reverse hk]

theorem littleBits_get (p : List Nat) (j : Nat) (h : j < 8 * p.length) :
    (littleBits p).getD j false = payloadBit p (8 * p.length - 1 - j) := by
  unfold littleBits
  rw [bigBits_getD, payloadBit_reverse _ _ (flipN_lt h), flipN_byteRev h]

theorem bitsToNat_append (l : List Bool) (b : Bool) : bitsToNat (l ++ [b]) = 2 * bitsToNat l + b.toNat := by
  simp [bitsToNat, List.foldl_append]

theorem specSum_congr (f g : Nat → Bool) (n : Nat) (h : ∀ i, i < n → f i = g i) : specSum f n = specSum g n := by
  induction n with
  | zero => rfl
  | succ m ih => simp [specSum, ih (fun i hi => h i (by omega)), h m (by omega)]

theorem foldl_bits (l : List Bool) (acc : Nat) :
    l.foldl (fun acc b => 2 * acc + b.toNat) acc = acc * 2 ^ l.length + bitsToNat l := by
  induction l generalizing acc with
  | nil => simp [bitsToNat]
  | cons c cs ih =>
    simp only [List.foldl_cons, bitsToNat, List.length_cons]
    rw [ih, ih (2 * 0 + c.toNat), Nat.pow_succ, Nat.add_mul, Nat.add_mul, Nat.mul_comm 2 acc, Nat.mul_assoc,
      Nat.mul_comm 2, Nat.mul_zero, Nat.zero_mul, Nat.zero_add, Nat.add_assoc]

theorem bitsToNat_cons (b : Bool) (t : List Bool) :
    bitsToNat (b :: t) = b.toNat * 2 ^ t.length + bitsToNat t := by
  rw [bitsToNat, List.foldl_cons, foldl_bits, Nat.mul_zero, Nat.zero_add]

theorem bitsToNat_spec (l : List Bool) :
    bitsToNat l = specSum (fun i => l.getD (l.length - 1 - i) false) l.length := by
  induction l with
  | nil => rfl
  | cons b t ih =>
    rw [bitsToNat_cons, ih, List.length_cons, specSum, Nat.add_sub_cancel, Nat.sub_self, Nat.add_comm]
    congr 1
    apply specSum_congr
    intro i hi
    have : t.length - i = (t.length - 1 - i) + 1 := by omega
    rw [this, List.getD_cons_succ]

theorem specSum_lt (f : Nat → Bool) (n : Nat) : specSum f n < 2 ^ n := by
  induction n with
  | zero => simp [specSum]
  | succ m ih =>
    rw [specSum, Nat.pow_succ]
    cases f m <;> simp <;> omega

theorem specSum_msb (f : Nat → Bool) (n : Nat) (hn : 1 ≤ n) :
    2 ^ (n - 1) ≤ specSum f n ↔ f (n - 1) = true := by
  obtain ⟨m, rfl⟩ : ∃ m, n = m + 1 := ⟨n - 1, by omega⟩
  simp only [specSum, Nat.add_sub_cancel]
  have := specSum_lt f m
  cases f m <;> simp <;> omega

theorem specSum_testBit (f : Nat → Bool) (n i : Nat) (hi : i < n) : (specSum f n).testBit i = f i := by
  induction n with
  | zero => omega
  | succ m ih =>
    rw [specSum, Nat.add_comm, Nat.mul_comm, Nat.testBit_two_pow_mul_add _ (specSum_lt f m)]
    by_cases him : i < m
    · simp [him, ih him]
    · have : i = m := by omega
      subst this
      cases f i <;> simp

theorem specSum_inj (f g : Nat → Bool) (n : Nat) (h : specSum f n = specSum g n) :
    ∀ i, i < n → f i = g i := by
  intro i hi
  rw [← specSum_testBit f n i hi, h, specSum_testBit g n i hi]

theorem bitsToNat_lt (l : List Bool) : bitsToNat l < 2 ^ l.length := by
  rw [bitsToNat_spec]; exact specSum_lt _ _

theorem pySlice_len (l : List α) (a b : Nat) (hb : b ≤ l.length) (hab : a ≤ b) : (pySlice l a b).length = b - a := by
  simp [pySlice]; omega

theorem pySlice_getD (l : List Bool) (a b t : Nat) (_hb : b ≤ l.length) (ht : t < b - a) :
    (pySlice l a b).getD t false = l.getD (a + t) false := by
  simp [pySlice, List.getD_eq_getElem?_getD, ht]

theorem sliceBits_len (s : Sig) (p : List Nat) (h : inFrame s p.length) :
    (sliceBits s (bigBits p) (littleBits p) (8 * p.length)).length = s.size := by
  obtain ⟨h1, _⟩ := h
  unfold sliceBits
  split
  · rw [pySlice_len _ _ _ (by rw [littleBits_len]; omega) (by omega)]; omega
  · rw [pySlice_len _ _ _ (by rw [bigBits_len]; omega) (by omega)]; omega

/-- index of the bit at physical address `k` of an `n`-byte payload in the bit string for byte
order `e` (and in the encoder's array for it): the little-endian one is the whole payload
bit-reversed, the big-endian one is MSB0-sequential -/
def slot (e : Bool) (n k : Nat) : Nat := if e then 8 * n - 1 - k else flipN k

theorem slot_lt {e : Bool} {n k : Nat} (hk : k < 8 * n) : slot e n k < 8 * n := by
  cases e
  · exact flipN_lt hk
  · simp only [slot, if_true]; omega

theorem slot_inj {e : Bool} {n k k' : Nat} (hk : k < 8 * n) (hk' : k' < 8 * n)
    (h : slot e n k = slot e n k') : k = k' := by
  cases e
  · exact flipN_inj h
  · simp only [slot, if_true] at h; omega

theorem sigAddr_lt {little : Bool} {start size i n : Nat} (h : start + size ≤ 8 * n) (hi : i < size) :
    sigAddr little start size i < 8 * n := by
  cases little
  · exact flipN_lt (by omega)
  · simp only [sigAddr, if_true]; omega

theorem bits_get_slot (p : List Nat) (e : Bool) (k : Nat) (hk : k < 8 * p.length) :
    (if e then littleBits p else bigBits p).getD (slot e p.length k) false = payloadBit p k := by
  cases e
  · simp only [slot, Bool.false_eq_true, if_false]
    rw [bigBits_getD, flipN_flipN]
  · simp only [slot, if_true]
    rw [littleBits_get _ _ (by omega)]
    congr 1; omega

theorem field_index (e : Bool) {n start size t : Nat} (h : start + size ≤ 8 * n) (ht : t < size) :
    (if e then 8 * n - start - size else start) + t = slot e n (sigAddr e start size (size - 1 - t)) := by
  cases e
  · simp only [slot, sigAddr, Bool.false_eq_true, if_false, flipN_flipN]; omega
  · simp only [slot, sigAddr, if_true]; omega

theorem sliceBits_getD (s : Sig) (p : List Nat) (h : inFrame s p.length) (t : Nat) (ht : t < s.size) :
    (sliceBits s (bigBits p) (littleBits p) (8 * p.length)).getD t false
      = payloadBit p (sigAddr s.little s.start s.size (s.size - 1 - t)) := by
  obtain ⟨h1, _⟩ := h
  rw [← bits_get_slot p s.little _ (sigAddr_lt h1 (by omega)), ← field_index s.little h1 ht]
  unfold sliceBits
  cases s.little
  · exact pySlice_getD _ _ _ _ (by rw [bigBits_len]; omega) (by omega)
  · exact pySlice_getD _ _ _ _ (by rw [littleBits_len]; omega) (by omega)

theorem rawUnsigned_eq_spec (s : Sig) (p : List Nat) (h : inFrame s p.length) :
    bitsToNat (sliceBits s (bigBits p) (littleBits p) (8 * p.length)) = specRaw p s.little s.start s.size := by
  rw [bitsToNat_spec, sliceBits_len s p h]
  unfold specRaw
  apply specSum_congr
  intro i hi
  rw [sliceBits_getD s p h _ (by omega)]
  congr 2; omega

theorem head?_eq_msb (l : List Bool) (hl : 1 ≤ l.length) :
    (l.head? == some true) = decide (bitsToNat l ≥ 2 ^ (l.length - 1)) := by
  have hm := specSum_msb (fun i => l.getD (l.length - 1 - i) false) l.length hl
  rw [Nat.sub_self] at hm
  rw [bitsToNat_spec]
  simp only [ge_iff_le, hm]
  cases l with
  | nil => simp at hl
  | cons b t => cases b <;> rfl

/-- the raw value denoted by the unsigned pattern `u` of the signal's bits: `Spec.valueOf`, which the
drivers run on a payload, as a function of the pattern -/
def decodedValue (s : Sig) (u : Nat) : Int :=
  if s.isFloat then (u : Int) else if s.signed then specSigned u s.size else (u : Int)

/-- everything C01 says about a single signal is a reading of this equation -/
theorem rawOf_eq_decodedValue (s : Sig) (p : List Nat) (h : inFrame s p.length) :
    rawOf s p = decodedValue s (specRaw p s.little s.start s.size) := by
  unfold rawOf unpackBits decodedValue specSigned
  rw [head?_eq_msb _ (by rw [sliceBits_len s p h]; exact h.2), sliceBits_len s p h, rawUnsigned_eq_spec s p h]
  -- both sides are the same if/else on float and signed; `1 ≤ size` is for the `size - 1` of `specSigned`
  cases s.isFloat <;> cases s.signed <;> simp [h.2]

theorem decodedValue_inj (s : Sig) {a b : Nat} (ha : a < 2 ^ s.size) (hb : b < 2 ^ s.size)
    (h : decodedValue s a = decodedValue s b) : a = b := by
  unfold decodedValue specSigned at h
  have hpow : (2:Int) ^ s.size = ((2 ^ s.size : Nat) : Int) := by simp
  rw [hpow] at h
  generalize 2 ^ s.size = M at *
  generalize 2 ^ (s.size - 1) = m at *
  -- float and unsigned: the patterns themselves; signed: `a - M` is negative and a pattern is not, so
  -- both are below `m` or both are not
  split at h
  · omega
  · split at h
    · split at h <;> split at h <;> omega
    · omega

theorem chunk8_length (n : Nat) (l : List α) : (chunk8 n l).length = n := by
  induction n generalizing l with
  | zero => rfl
  | succ k ih => simp [chunk8, ih]

theorem chunk8_get (n m : Nat) (l : List α) (hm : m < n) :
    (chunk8 n l)[m]? = some ((l.drop (8 * m)).take 8) := by
  induction n generalizing l m with
  | zero => omega
  | succ k ih =>
    cases m with
    | zero => simp [chunk8]
    | succ m' =>
      simp only [chunk8, List.getElem?_cons_succ]
      rw [ih _ _ (by omega), List.drop_drop]
      congr 3; omega

theorem chunk8_length_le (n : Nat) (l : List α) : ∀ c ∈ chunk8 n l, c.length ≤ 8 := by
  induction n generalizing l with
  | zero => intro c hc; cases hc
  | succ k ih => exact List.forall_mem_cons.2 ⟨List.length_take_le 8 l, ih _⟩

theorem reverseGroups_succ (n : Nat) (l : List α) :
    reverseGroups (n + 1) l = reverseGroups n (l.drop 8) ++ l.take 8 := by
  simp [reverseGroups, chunk8]

theorem reverseGroups_length (n : Nat) (l : List α) (h : l.length = 8 * n) :
    (reverseGroups n l).length = 8 * n := by
  induction n generalizing l with
  | zero => simp [reverseGroups, chunk8]
  | succ k ih =>
    rw [reverseGroups_succ, List.length_append, ih _ (by simp; omega)]
    simp; omega

theorem reverseGroups_get (n : Nat) (l : List α) (j : Nat) (h : l.length = 8 * n) (hj : j < 8 * n) :
    (reverseGroups n l)[j]? = l[8 * (n - 1 - j / 8) + j % 8]? := by
  induction n generalizing l with
  | zero => omega
  | succ k ih =>
    have hlen := reverseGroups_length k (l.drop 8) (by simp; omega)
    rw [reverseGroups_succ]
    by_cases hjk : j < 8 * k
    · rw [List.getElem?_append_left (by omega), ih _ (by simp; omega) hjk, List.getElem?_drop]
      congr 1; omega
    · rw [List.getElem?_append_right (by omega), hlen, List.getElem?_take]
      rw [if_pos (by omega)]
      congr 1; omega

theorem fitLength_eq_fit (size : Nat) (data : List Nat) (at_ ae : Bool) :
    fitLength size data at_ ae = (Spec.fit size data at_ ae).elim (.error .frameLength) .ok := by
  unfold fitLength Spec.fit
  rcases Nat.lt_trichotomy data.length size with h | h | h
  · have hne : data.length ≠ size := Nat.ne_of_lt h
    have hpad : data.length + (size - data.length) = size := by omega
    have htake : (data ++ List.replicate (size - data.length) 0xFF).take size
        = data ++ List.replicate (size - data.length) 0xFF := List.take_of_length_le (by simp; omega)
    -- too short: only padding makes the length right
    cases at_ <;> cases ae <;> simp [hne, h, hpad, htake] <;> omega
  · simp [h]
  · have hne : data.length ≠ size := Nat.ne_of_gt h
    have h' : ¬ data.length < size := by omega
    have hz : size - data.length = 0 := by omega
    -- too long: only trimming does
    cases at_ <;> cases ae <;> simp [hne, h', hz] <;> omega

theorem unpack_ok (f : Frame) (data : List Nat) (hnd : (f.sigs.map (·.name)).Nodup)
    (hct : f.isContainer = false) (hlen : data.length = f.size) :
    f.unpack data false false = .ok (f.sigs.map fun s => (s.name, rawOf s data)) := by
  have := foldl_dictSet_nodup f.sigs (fun s => rawOf s data) [] hnd (by simp)
  simp [Frame.unpack, fitLength, hlen, hct, this]

end CanVerif
