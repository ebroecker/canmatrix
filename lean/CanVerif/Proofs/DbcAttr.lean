import CanVerif.Model.DbcAttr
import CanVerif.Proofs.DbcStmt
/-!
# The attribute statements `BA_DEF_`, `BA_DEF_DEF_`, `BA_` are read back as written (Props/C05c.lean)

The readers are walked with the stage lemmas of Proofs/DbcTok.lean.  Particular to these statements: the level keyword of a
definition (one of four, or none), the quotes of a default, and the value of an attribute - a text in quotes or a number text, found
by `baValue` behind a class keyword and by `baGlobalValue` without one.
-/
namespace CanVerif.Dbc.AttrProofs
open CanVerif CanVerif.Num CanVerif.Dbc CanVerif.Dbc.StmtProofs

theorem lit_def0 : "BA_DEF_".toList = ['B', 'A', '_', 'D', 'E', 'F', '_'] := String.toList_ofList
theorem lit_def : "BA_DEF_ ".toList = ['B', 'A', '_', 'D', 'E', 'F', '_', ' '] := String.toList_ofList
theorem lit_dd : "BA_DEF_DEF_ ".toList = ['B', 'A', '_', 'D', 'E', 'F', '_', 'D', 'E', 'F', '_', ' '] := String.toList_ofList
theorem lit_ba : "BA_ ".toList = ['B', 'A', '_', ' '] := String.toList_ofList
theorem lit_bu : "BU_ ".toList = ['B', 'U', '_', ' '] := String.toList_ofList
theorem lit_ev : "EV_ ".toList = ['E', 'V', '_', ' '] := String.toList_ofList
theorem kw_bu : "BU_".toList = ['B', 'U', '_'] := String.toList_ofList
theorem kw_bo : "BO_".toList = ['B', 'O', '_'] := String.toList_ofList
theorem kw_sg : "SG_".toList = ['S', 'G', '_'] := String.toList_ofList
theorem kw_ev : "EV_".toList = ['E', 'V', '_'] := String.toList_ofList


theorem wfAttrName_unpack {n : Str} (h : wfAttrName n = true) : n ≠ [] ∧ ∀ c ∈ n, c ≠ '"' := by
  simp only [wfAttrName, Bool.and_eq_true, Bool.not_eq_true', List.isEmpty_eq_false_iff, List.all_eq_true] at h
  exact ⟨h.1, fun c hc e => absurd (h.2 c hc) (e ▸ by decide)⟩

theorem quotedName_ok (name rest : Str) (hne : name ≠ []) (h : ∀ c ∈ name, c ≠ '"') :
    quotedName ('"' :: (name ++ '"' :: rest)) = some (name, rest) := by
  obtain ⟨a, t, rfl⟩ := List.exists_cons_of_ne_nil hne
  simp only [quotedName, Num.span_ne '"' (a :: t) rest h]

theorem stripWs_length_le (s : Str) : (stripWs s).length ≤ s.length := by
  unfold stripWs
  rw [List.length_reverse]
  have h1 := (List.dropWhile_suffix isWs (l := (s.dropWhile isWs).reverse)).length_le
  have h2 := (List.dropWhile_suffix isWs (l := s)).length_le
  rw [List.length_reverse] at h1
  omega

theorem head_not_ws_of_strip (c : Char) (t : Str) (h : stripWs (c :: t) = c :: t) : isWs c = false := by
  refine Bool.eq_false_iff.mpr fun hc => ?_
  rw [stripWs_drop_ws c t hc] at h
  have := stripWs_length_le t
  rw [h] at this
  simp only [List.length_cons] at this
  omega

theorem skipSp_of_not_ws (c : Char) (t : Str) (h : isWs c = false) : skipSp (c :: t) = c :: t :=
  skipSp_of_ne c t (by rintro rfl; revert h; decide)

theorem wfDefinition_unpack {t : Str} (h : wfDefinition t = true) : t ≠ [] ∧ stripWs t = t := by
  simp only [wfDefinition, Bool.and_eq_true, Bool.not_eq_true', List.isEmpty_eq_false_iff, beq_iff_eq] at h
  exact h.1

theorem parseDefBody_ok (lvl : Level) (name dfn : Str) (hn : wfAttrName name = true) (hd : wfDefinition dfn = true) :
    parseDefBody lvl ('"' :: (name ++ '"' :: ' ' :: (dfn ++ [';']))) = some ⟨lvl, name, dfn⟩ := by
  obtain ⟨hne, hq⟩ := wfAttrName_unpack hn
  obtain ⟨hdne, hds⟩ := wfDefinition_unpack hd
  obtain ⟨c, t, rfl⟩ := List.exists_cons_of_ne_nil hdne
  unfold parseDefBody
  rw [quotedName_ok name _ hne hq]
  simp only
  rw [skipSp_space, List.cons_append, skipSp_of_not_ws c _ (head_not_ws_of_strip c t hds), ← List.cons_append, upto_snoc]
  simp only [List.isEmpty_cons, Bool.false_eq_true, if_false, hds]

theorem renderDef_eq (d : DefLine) :
    renderDef d = 'B' :: 'A' :: '_' :: 'D' :: 'E' :: 'F' :: '_' :: ' ' ::
      (d.level.keyword ++ ' ' :: '"' :: (d.name ++ '"' :: ' ' :: (d.definition ++ [';']))) := by
  unfold renderDef
  lit_chars
  simp only [List.append_assoc]
  rfl

theorem stripWs_blank_cons_semi (x : Char) (m : Str) (hx : isWs x = false) : stripWs (' ' :: x :: (m ++ [';'])) = x :: (m ++ [';']) := by
  rw [stripWs_drop_ws ' ' _ (by decide)]
  exact stripWs_cons_snoc x ';' m hx (by decide)

theorem parseDef_kw (k1 k2 k3 : Char) (lvl : Level) (body : Str) (hk : levelOfKeyword [k1, k2, k3] = some lvl)
    (hw : isWs k1 = false) :
    parseDef ('B' :: 'A' :: '_' :: 'D' :: 'E' :: 'F' :: '_' :: ' ' :: ([k1, k2, k3] ++ ' ' :: '"' :: (body ++ [';']))) =
      parseDefBody lvl ('"' :: (body ++ [';'])) := by
  have hstrip : stripWs (' ' :: k1 :: k2 :: k3 :: ' ' :: '"' :: (body ++ [';'])) = k1 :: k2 :: k3 :: ' ' :: '"' :: (body ++ [';']) :=
    stripWs_blank_cons_semi k1 (k2 :: k3 :: ' ' :: '"' :: body) hw
  simp only [parseDef, lit_def0, startsWith_cons, startsWith_nil, Bool.not_true, Bool.false_eq_true, ↓reduceIte,
    List.drop_succ_cons, List.drop_zero, List.cons_append, List.nil_append, hstrip, List.take_succ_cons, List.take_zero, hk,
    stripWs_blank_cons_semi '"' body (by decide)]

theorem levelOfKeyword_eq (k : Str) : levelOfKeyword k =
    if k == ['S', 'G', '_'] then some .signal else if k == ['B', 'O', '_'] then some .frame
    else if k == ['B', 'U', '_'] then some .ecu else if k == ['E', 'V', '_'] then some .env else none := by
  unfold levelOfKeyword
  rw [kw_sg, kw_bo, kw_bu, kw_ev]

theorem levelOfKeyword_quote (t : Str) : levelOfKeyword ('"' :: t) = none := by
  simp [levelOfKeyword_eq]

theorem parseDef_global (body : Str) :
    parseDef ('B' :: 'A' :: '_' :: 'D' :: 'E' :: 'F' :: '_' :: ' ' :: (Level.global.keyword ++ ' ' :: '"' :: (body ++ [';']))) =
      parseDefBody .global ('"' :: (body ++ [';'])) := by
  have hstrip : stripWs (' ' :: ' ' :: '"' :: (body ++ [';'])) = '"' :: (body ++ [';']) := by
    rw [stripWs_drop_ws ' ' _ (by decide), stripWs_blank_cons_semi '"' body (by decide)]
  simp only [parseDef, Level.keyword, lit_def0, lit_def, startsWith_cons, startsWith_nil, Bool.not_true, Bool.false_eq_true, ↓reduceIte,
    List.drop_succ_cons, List.drop_zero, List.nil_append, hstrip, List.take_succ_cons, levelOfKeyword_quote, skipSp_space,
    skipSp_of_ne '"' _ (by decide)]

theorem keyword_cases (lvl : Level) : lvl = .global ∨
    ∃ k1 k2 k3, lvl.keyword = [k1, k2, k3] ∧ levelOfKeyword [k1, k2, k3] = some lvl ∧ isWs k1 = false := by
  cases lvl with
  | global => exact Or.inl rfl
  | ecu => exact Or.inr ⟨'B', 'U', '_', kw_bu, by rw [levelOfKeyword_eq]; rfl, by decide⟩
  | frame => exact Or.inr ⟨'B', 'O', '_', kw_bo, by rw [levelOfKeyword_eq]; rfl, by decide⟩
  | signal => exact Or.inr ⟨'S', 'G', '_', kw_sg, by rw [levelOfKeyword_eq]; rfl, by decide⟩
  | env => exact Or.inr ⟨'E', 'V', '_', kw_ev, by rw [levelOfKeyword_eq]; rfl, by decide⟩

theorem parseDef_renderDef (d : DefLine) (h : wfDef d = true) : parseDef (renderDef d) = some d := by
  obtain ⟨lvl, name, dfn⟩ := d
  have hn : wfAttrName name = true ∧ wfDefinition dfn = true := by simpa [wfDef] using h
  -- `parseDef_global` and `parseDef_kw` speak of a line `… ++ [';']`, `parseDefBody_ok` of `name ++ … (dfn ++ [';'])`
  have hbody_assoc : name ++ '"' :: ' ' :: (dfn ++ [';']) = (name ++ '"' :: ' ' :: dfn) ++ [';'] := by
    simp only [List.append_assoc, List.cons_append]
  rw [renderDef_eq]
  dsimp only
  rcases keyword_cases lvl with rfl | ⟨k1, k2, k3, hk, hlv, hw⟩
  · rw [hbody_assoc, parseDef_global, ← hbody_assoc]
    exact parseDefBody_ok _ name dfn hn.1 hn.2
  · rw [hk, hbody_assoc, parseDef_kw k1 k2 k3 lvl _ hlv hw, ← hbody_assoc]
    exact parseDefBody_ok _ name dfn hn.1 hn.2

theorem uptoFirst_ok (body r : Str) (h : ∀ c ∈ body, c ≠ ';') : uptoFirstSemicolon (body ++ ';' :: r) = some body := by
  simp only [uptoFirstSemicolon, Num.span_ne ';' body r h]

theorem dropTrailingSp_id (v : Str) (h : ∀ c ∈ v.getLast?, c ≠ ' ') : dropTrailingSp v = v := by
  unfold dropTrailingSp
  rw [dropWhile_none _ v.reverse (by simpa using h), List.reverse_reverse]

theorem unquoteDefault_quoted (v : Str) : unquoteDefault ('"' :: (v ++ ['"'])) = v := by
  unfold unquoteDefault
  have h1 : (('"' :: (v ++ ['"'])).length > 1) = True := by simp
  have h2 : ('"' :: (v ++ ['"'])).getLast? = some '"' := List.getLast?_concat (l := '"' :: v)
  simp only [h1, h2, List.head?_cons, decide_true, beq_self_eq_true, Bool.and_self, if_true, List.drop_succ_cons, List.drop_zero,
    List.dropLast_concat]

theorem unquoteDefault_plain (v : Str) (h : ∀ c ∈ v, c ≠ '"') : unquoteDefault v = v := by
  unfold unquoteDefault
  cases v with
  | nil => rfl
  | cons a t =>
    have : (some a == some '"') = false := by simpa using h a (by simp)
    simp only [List.head?_cons, this, Bool.and_false, Bool.false_and, Bool.false_eq_true, if_false]

theorem renderDefDef_eq (d : DefDefLine) :
    renderDefDef d = 'B' :: 'A' :: '_' :: 'D' :: 'E' :: 'F' :: '_' :: 'D' :: 'E' :: 'F' :: '_' :: ' ' :: '"' ::
      (d.name ++ '"' :: ' ' :: ((if d.isText then '"' :: d.value ++ ['"'] else d.value) ++ [';'])) := by
  unfold renderDefDef
  lit_chars
  simp only [List.append_assoc]
  rfl

theorem wfDefDef_unpack {d : DefDefLine} (h : wfDefDef d = true) :
    wfAttrName d.name = true ∧ (∀ c ∈ d.value, c ≠ ';') ∧
    (d.isText = true ∨ (d.value ≠ [] ∧ (∀ c ∈ d.value, c ≠ ' ') ∧ ∀ c ∈ d.value, c ≠ '"')) := by
  simp only [wfDefDef, Bool.and_eq_true, Bool.or_eq_true, Bool.not_eq_true', List.isEmpty_eq_false_iff,
    List.contains_eq_mem, decide_eq_false_iff_not] at h
  refine ⟨h.1.1, fun c hc hce => h.1.2 (hce ▸ hc), ?_⟩
  rcases h.2 with h2 | h2
  · exact Or.inl h2
  · exact Or.inr ⟨h2.1.1, fun c hc hce => h2.1.2 (hce ▸ hc), fun c hc hce => h2.2 (hce ▸ hc)⟩

theorem parseDefDef_renderDefDef (d : DefDefLine) (h : wfDefDef d = true) :
    parseDefDef (renderDefDef d) = some (d.name, d.value) := by
  obtain ⟨hn, hsemi, hv⟩ := wfDefDef_unpack h
  obtain ⟨hne, hq⟩ := wfAttrName_unpack hn
  obtain ⟨name, isText, value⟩ := d
  simp only at hsemi hv hne hq
  -- the default as written, in quotes or plain: it begins with no blank, holds no semicolon, ends in no blank,
  -- and `set_default` gives the value
  obtain ⟨c, t, hw, hc, hsemi', hlast, hun⟩ : ∃ c t, (if isText then '"' :: value ++ ['"'] else value) = c :: t ∧ c ≠ ' ' ∧
      (∀ x ∈ c :: t, x ≠ ';') ∧ (∀ x ∈ (c :: t).getLast?, x ≠ ' ') ∧ unquoteDefault (c :: t) = value := by
    cases isText with
    | true =>
      refine ⟨'"', value ++ ['"'], rfl, by decide, ?_, ?_, unquoteDefault_quoted _⟩
      · exact List.forall_mem_cons.mpr ⟨by decide, List.forall_mem_append.mpr ⟨hsemi, by decide⟩⟩
      · rw [← List.cons_append, List.getLast?_concat]
        exact fun x hx => Option.mem_some.mp hx ▸ by decide
    | false =>
      rcases hv with hv | ⟨hvne, hsp, hvq⟩
      · exact absurd hv (by decide)
      · obtain ⟨c, t, rfl⟩ := List.exists_cons_of_ne_nil hvne
        exact ⟨c, t, rfl, hsp c (by simp), hsemi, fun x hx => hsp x (List.mem_of_getLast? hx), unquoteDefault_plain _ hvq⟩
  have hu : uptoFirstSemicolon (c :: (t ++ [';'])) = some (c :: t) := uptoFirst_ok (c :: t) [] hsemi'
  rw [renderDefDef_eq]
  simp only
  rw [hw]
  simp only [parseDefDef, lit_dd, startsWith_cons, startsWith_nil, Bool.not_true, Bool.false_eq_true, ↓reduceIte,
    List.drop_succ_cons, List.drop_zero, skipSp_blank_ne '"' _ (by decide), quotedName_ok name _ hne hq, List.cons_append,
    skipSp_blank_ne c _ hc, hu, dropTrailingSp_id _ hlast, List.isEmpty_cons, hun]

theorem wfBaValue_cases {v : Str} (h : wfBaValue v = true) :
    (∃ m, v = '"' :: (m ++ ['"'])) ∨ (v ≠ [] ∧ (∀ c ∈ v, isBlank c = false) ∧ ∀ c ∈ v, c ≠ '"') := by
  simp only [wfBaValue, Bool.or_eq_true, Bool.and_eq_true, Bool.not_eq_true', List.isEmpty_eq_false_iff, List.all_eq_true,
    decide_eq_true_eq, beq_iff_eq, bne_iff_ne] at h
  rcases h with ⟨⟨⟨hl, hh⟩, hg⟩, _⟩ | ⟨hne, hall⟩
  · left
    cases v with
    | nil => simp at hl
    | cons a t =>
      simp only [List.head?_cons, Option.some.injEq] at hh
      subst hh
      have ht : t ≠ [] := by
        intro ht; subst ht; simp at hl
      rw [List.getLast?_cons_of_ne_nil ht] at hg
      obtain ⟨ys, rfl⟩ := List.getLast?_eq_some_iff.mp hg
      exact ⟨ys, rfl⟩
  · exact Or.inr ⟨hne, fun c hc => (hall c hc).1.1, fun c hc => (hall c hc).1.2⟩

theorem value_facts {v : Str} (h : wfBaValue v = true) :
    v ≠ [] ∧ stripWs v = v ∧ skipSp (v ++ [';']) = v ++ [';'] := by
  rcases wfBaValue_cases h with ⟨m, rfl⟩ | ⟨hne, hnb, hnq⟩
  · exact ⟨by simp, stripWs_cons_snoc '"' '"' m (by decide) (by decide), skipSp_of_ne '"' _ (by decide)⟩
  · refine ⟨hne, ?_, ?_⟩
    · simpa using stripWs_pad [] v [] (by simp) (by simp) (fun c hc => not_ws_of_not_blank (hnb c hc))
    · obtain ⟨c, t, rfl⟩ := List.exists_cons_of_ne_nil hne
      exact skipSp_of_not_ws c _ (not_ws_of_not_blank (hnb c (by simp)))

theorem baValue_ok (v : Str) (hne : v ≠ []) (hs : stripWs v = v) : baValue (v ++ [';']) = some v := by
  unfold baValue
  rw [upto_snoc]
  simp only [List.isEmpty_eq_false_iff.mpr hne, Bool.false_eq_true, if_false, hs]

theorem baGlobal_quoted (m : Str) : baGlobalValue ('"' :: (m ++ ['"']) ++ [';']) = some ('"' :: (m ++ ['"'])) := by
  have hrev : ('"' :: (m ++ ['"', ';'])).reverse = ';' :: '"' :: (m.reverse ++ ['"']) := by
    simp only [List.reverse_append, List.reverse_cons]; rfl
  have hback : ('"' :: (m.reverse ++ ['"'])).reverse = '"' :: (m ++ ['"']) := by
    simp only [List.reverse_append, List.reverse_cons, List.reverse_reverse]; rfl
  have hlen : ('"' :: (m.reverse ++ ['"'])).length ≥ 2 := by
    simp only [List.length_cons, List.length_append]; omega
  simp only [baGlobalValue, List.cons_append, List.append_assoc, List.nil_append, hrev, List.dropWhile_cons, bne_self_eq_false,
    Bool.false_eq_true, ↓reduceIte, (by decide : ('"' == ' ') = false), hlen, hback]

theorem baGlobal_plain (c : Char) (t : Str) (hc : c ≠ '"') (h : ∀ x ∈ c :: t, isBlank x = false) :
    baGlobalValue (c :: (t ++ [';'])) = some (c :: t) := by
  have hs : (c :: (t ++ [';'])).span (fun c => !isBlank c) = (c :: (t ++ [';']), []) :=
    span_all _ ((c :: t) ++ [';']) (List.forall_mem_append.mpr ⟨fun x hx => by rw [h x hx]; rfl, by decide⟩)
  have hl : (c :: (t ++ [';'])).getLast? = some ';' := List.getLast?_concat (l := c :: t)
  have hlen : (c :: (t ++ [';'])).length ≥ 2 := by simp only [List.length_cons, List.length_append]; omega
  have hdl : (c :: (t ++ [';'])).dropLast = c :: t := List.dropLast_concat (l₁ := c :: t)
  unfold baGlobalValue
  split
  · rename_i heq
    injection heq with h1 _
    exact absurd h1 hc
  · simp only [hs, hl, hlen, hdl, skipSp, List.dropWhile_nil, beq_self_eq_true, decide_true, Bool.and_self, if_true]

theorem startsWith_kw_false (s : Str) (k1 k2 k3 : Char) (h : ∀ c ∈ s, c ≠ ' ') : startsWith s [k1, k2, k3, ' '] = false := by
  refine Bool.eq_false_iff.mpr fun hsw => ?_
  have h4 : s.take 4 = [k1, k2, k3, ' '] := by simpa [startsWith] using hsw
  have : ' ' ∈ s.take 4 := by rw [h4]; simp
  exact h ' ' (List.mem_of_mem_take this) rfl

/-- the value of a network attribute is not mistaken for a class keyword, and is found again -/
theorem global_facts {v : Str} (h : wfBaValue v = true) :
    (∀ k1 k2 k3 : Char, k1 ≠ '"' → startsWith (v ++ [';']) [k1, k2, k3, ' '] = false) ∧ baGlobalValue (v ++ [';']) = some v := by
  rcases wfBaValue_cases h with ⟨m, rfl⟩ | ⟨hne, hnb, hnq⟩
  · exact ⟨fun k1 k2 k3 hk => startsWith_ne (Ne.symm hk) _ _, baGlobal_quoted m⟩
  · obtain ⟨c, t, rfl⟩ := List.exists_cons_of_ne_nil hne
    refine ⟨?_, baGlobal_plain c t (hnq c (by simp)) hnb⟩
    exact fun k1 k2 k3 _ => startsWith_kw_false _ k1 k2 k3
      (List.forall_mem_append.mpr ⟨fun x hx => not_blank_ne_space (hnb x hx), by decide⟩)

theorem renderBa_global (attr v : Str) :
    renderBa ⟨attr, .global, v⟩ = 'B' :: 'A' :: '_' :: ' ' :: '"' :: (attr ++ '"' :: ' ' :: ' ' :: ' ' :: (v ++ [';'])) := by
  unfold renderBa
  lit_chars
  simp only [List.append_assoc]
  rfl

theorem renderBa_ecu (attr n v : Str) :
    renderBa ⟨attr, .ecu n, v⟩ =
      'B' :: 'A' :: '_' :: ' ' :: '"' :: (attr ++ '"' :: ' ' :: 'B' :: 'U' :: '_' :: ' ' :: (n ++ ' ' :: (v ++ [';']))) := by
  unfold renderBa
  lit_chars
  simp only [List.append_assoc]
  rfl

theorem renderBa_frame (attr : Str) (id : Nat) (v : Str) :
    renderBa ⟨attr, .frame id, v⟩ =
      'B' :: 'A' :: '_' :: ' ' :: '"' :: (attr ++ '"' :: ' ' :: 'B' :: 'O' :: '_' :: ' ' :: (natDigits id ++ ' ' :: (v ++ [';']))) := by
  unfold renderBa
  lit_chars
  simp only [List.append_assoc]
  rfl

theorem renderBa_signal (attr : Str) (id : Nat) (n v : Str) :
    renderBa ⟨attr, .signal id n, v⟩ =
      'B' :: 'A' :: '_' :: ' ' :: '"' :: (attr ++ '"' :: ' ' :: 'S' :: 'G' :: '_' :: ' ' ::
        (natDigits id ++ ' ' :: (n ++ ' ' :: (v ++ [';'])))) := by
  unfold renderBa
  lit_chars
  simp only [List.append_assoc, List.cons_append, List.nil_append]

theorem wfBa_unpack {b : BaLine} (h : wfBa b = true) : wfAttrName b.attr = true ∧ wfBaValue b.value = true := by
  simp only [wfBa, Bool.and_eq_true] at h
  exact h.1

/-- In each class: the keyword, the attribute name in quotes, the class keyword that sends the reader into one branch, the tokens
that name the target, the value up to the last semicolon. -/
theorem parseBa_renderBa (b : BaLine) (h : wfBa b = true) : parseBa (renderBa b) = some b := by
  obtain ⟨hn, hv⟩ := wfBa_unpack h
  obtain ⟨attr, target, v⟩ := b
  simp only at hn hv
  obtain ⟨hne, hq⟩ := wfAttrName_unpack hn
  obtain ⟨hvne, hvs, hvk⟩ := value_facts hv
  have hvb : skipSp (' ' :: (v ++ [';'])) = v ++ [';'] := by rw [skipSp_space, hvk]
  cases target with
  | global =>
    obtain ⟨hsw, hg⟩ := global_facts hv
    rw [renderBa_global]
    simp only [parseBa, lit_ba, lit_bo, lit_sg, lit_bu, lit_ev, startsWith_cons, startsWith_nil, Bool.not_true, Bool.false_eq_true,
      ↓reduceIte, List.drop_succ_cons, List.drop_zero, skipSp_blank_ne '"' _ (by decide), quotedName_ok attr _ hne hq, skipSp_space,
      hvk, hsw _ _ _ (show 'B' ≠ '"' by decide), hsw _ _ _ (show 'S' ≠ '"' by decide), hsw _ _ _ (show 'E' ≠ '"' by decide), hg,
      Option.map_some]
  | ecu n =>
    have hs : isIdent n = true := by simpa [wfBa, hn, hv] using h
    obtain ⟨x, xs, rfl⟩ := List.exists_cons_of_ne_nil (isIdent_ne_nil hs)
    rw [renderBa_ecu]
    simp only [parseBa, lit_ba, lit_bo, lit_sg, lit_bu, startsWith_cons, startsWith_nil, Bool.not_true, Bool.false_eq_true,
      ↓reduceIte, List.drop_succ_cons, List.drop_zero, skipSp_blank_ne '"' _ (by decide), quotedName_ok attr _ hne hq,
      skipSp_blank_ne 'B' _ (by decide), startsWith_ne (show 'U' ≠ 'O' by decide), startsWith_ne (show 'B' ≠ 'S' by decide),
      tok_word x xs _ (ident_not_blank hs), hvb, baValue_ok v hvne hvs, Option.map_some]
  | frame id =>
    obtain ⟨d, ds, hnd, hd, hid⟩ := natDigits_cons id
    rw [renderBa_frame, hnd]
    simp only [parseBa, lit_ba, lit_bo, startsWith_cons, startsWith_nil, Bool.not_true, Bool.false_eq_true,
      ↓reduceIte, List.drop_succ_cons, List.drop_zero, skipSp_blank_ne '"' _ (by decide), quotedName_ok attr _ hne hq,
      skipSp_blank_ne 'B' _ (by decide), tok_num d ds _ hd, hvb, baValue_ok v hvne hvs, hid,
      Option.bind_some, Option.map_some]
  | signal id n =>
    have hs : isIdent n = true := by simpa [wfBa, hn, hv] using h
    obtain ⟨x, xs, rfl⟩ := List.exists_cons_of_ne_nil (isIdent_ne_nil hs)
    obtain ⟨d, ds, hnd, hd, hid⟩ := natDigits_cons id
    rw [renderBa_signal, hnd]
    simp only [parseBa, lit_ba, lit_bo, lit_sg, startsWith_cons, startsWith_nil, Bool.not_true, Bool.false_eq_true,
      ↓reduceIte, List.drop_succ_cons, List.drop_zero, skipSp_blank_ne '"' _ (by decide), quotedName_ok attr _ hne hq,
      skipSp_blank_ne 'S' _ (by decide), startsWith_ne (show 'S' ≠ 'B' by decide), tok_num d ds _ hd,
      tok_word x xs _ (ident_not_blank hs), hvb, baValue_ok v hvne hvs, hid,
      Option.bind_some, Option.map_some]

theorem stripQuotes_quoted (t : Str) : stripQuotes ('"' :: t ++ ['"']) = t := by
  unfold stripQuotes
  simp only [List.cons_append, List.drop_succ_cons, List.drop_zero, List.dropLast_concat]

end CanVerif.Dbc.AttrProofs
