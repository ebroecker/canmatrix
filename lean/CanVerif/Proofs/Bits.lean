import CanVerif.Spec.Bits
/-! `flipN` keeps the byte and mirrors the bit; in the mirrored numbering the Motorola sawtooth is a
plain count (`sawWalk_flipN`). -/
namespace CanVerif

theorem flipN_flipN (s : Nat) : flipN (flipN s) = s := by unfold flipN; omega

theorem flipN_inj {a b : Nat} (h : flipN a = flipN b) : a = b := by
  have := congrArg flipN h; simpa [flipN_flipN] using this

theorem sawStep_flipN (j : Nat) : sawStep (flipN j) = flipN (j + 1) := by
  unfold sawStep flipN; split <;> omega

theorem sawWalk_flipN (k j : Nat) : sawWalk k (flipN j) = flipN (j + k) := by
  induction k generalizing j with
  | zero => simp [sawWalk]
  | succ n ih => simp only [sawWalk, sawStep_flipN, ih]; congr 1; omega

theorem flipN_lt {j n : Nat} (h : j < 8 * n) : flipN j < 8 * n := by unfold flipN; omega

theorem flipN_div (j : Nat) : flipN j / 8 = j / 8 := by unfold flipN; omega

theorem flipN_mod (j : Nat) : flipN j % 8 = 7 - j % 8 := by unfold flipN; omega

/-- renumbering and then reversing the order of the `n` bytes reverses all `8 n` bits -/
theorem flipN_byteRev {j n : Nat} (h : j < 8 * n) : 8 * (n - 1 - flipN j / 8) + flipN j % 8 = 8 * n - 1 - j := by
  rw [flipN_div, flipN_mod]; omega

end CanVerif
