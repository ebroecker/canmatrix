import CanVerif.Proofs.DbcTok
/-! The `VAL_` statement is read back as written (C05): unescaping undoes escaping, and the split at unescaped quotes gives key and
text of one entry after the other. -/
namespace CanVerif.Dbc.ValProofs
open CanVerif CanVerif.Num

theorem unescape_cons_ne (c : Char) (r : Str) (h : c ≠ '\\') :
    unescapeQuotes (c :: r) = c :: unescapeQuotes r := by
  rw [unescapeQuotes]
  -- left over is the side condition of the equation: the earlier pattern does not match (so in the lemmas below)
  intro r' h' _; exact h h'

theorem escape_cons_ne (c : Char) (r : Str) (h : c ≠ '"') :
    escapeQuotes (c :: r) = c :: escapeQuotes r := by
  rw [escapeQuotes]
  intro h'; exact h h'

theorem escape_quote (r : Str) : escapeQuotes ('"' :: r) = '\\' :: '"' :: escapeQuotes r := by
  rw [escapeQuotes]

theorem unescape_bsq (r : Str) : unescapeQuotes ('\\' :: '"' :: r) = '"' :: unescapeQuotes r := by
  rw [unescapeQuotes]

theorem unescape_bs_ne (s : Str) (h : ∀ x, s ≠ '"' :: x) : unescapeQuotes ('\\' :: s) = '\\' :: unescapeQuotes s := by
  rw [unescapeQuotes]
  intro r _ h'
  exact h r h'

theorem escape_append_ne_quote (r : Str) (hr : r ≠ []) (b x : Str) : escapeQuotes r ++ b ≠ '"' :: x := by
  cases r using escapeQuotes.fun_cases with
  | case1 => exact absurd rfl hr
  | case2 r =>
    rw [escape_quote]
    exact fun h => absurd (List.cons.inj h).1 (by decide)
  | case3 d r hd =>
    rw [escape_cons_ne d r hd]
    exact fun h => hd (List.cons.inj h).1

/-- (the exception: a backslash at the end of `a` and a quote at the beginning of `b` would read as an escaped quote) -/
theorem unescape_escape_append (a b : Str) (h : a.getLast? = some '\\' → ∀ x, b ≠ '"' :: x) :
    unescapeQuotes (escapeQuotes a ++ b) = a ++ unescapeQuotes b := by
  induction a using escapeQuotes.induct with
  | case1 => rfl
  | case2 r ih =>
    rw [escape_quote, List.cons_append, List.cons_append, unescape_bsq, ih (fun hr => h (by rw [List.getLast?_cons, hr]; rfl)),
      List.cons_append]
  | case3 c r hq ih =>
    have ih' := ih (fun hr => h (by rw [List.getLast?_cons, hr]; rfl))
    rw [escape_cons_ne _ _ hq, List.cons_append, List.cons_append]
    by_cases hb : c = '\\'
    · subst hb
      have hhead : ∀ x, escapeQuotes r ++ b ≠ '"' :: x := by
        cases r with
        | nil => exact h rfl
        | cons d r => exact escape_append_ne_quote (d :: r) (List.cons_ne_nil d r) b
      rw [unescape_bs_ne _ hhead, ih']
    · rw [unescape_cons_ne _ _ hb, ih']

/-- `val.replace('"', '\\"').replace('\\"', '"')` is `val`, also where `val` has backslashes of its own -/
theorem unescape_escape (t : Str) : unescapeQuotes (escapeQuotes t) = t := by
  have := unescape_escape_append t [] (fun _ x hx => nomatch hx)
  rwa [List.append_nil, show unescapeQuotes [] = [] from rfl, List.append_nil] at this

theorem wfText_no_bs (t : Str) (h : wfText t = true) : ∀ c ∈ t, c ≠ '\\' := by
  simp only [wfText, Bool.not_eq_true', List.any_eq_false] at h
  exact fun c hc e => h c hc (by simp [e])

theorem escapeAwareSplit_go_nil (cur : Str) : escapeAwareSplit.go cur [] = [cur.reverse] := by
  simp [escapeAwareSplit.go]
theorem escapeAwareSplit_go_bs (cur : Str) (c : Char) (r : Str) :
    escapeAwareSplit.go cur ('\\' :: c :: r) = escapeAwareSplit.go (c :: '\\' :: cur) r := by
  simp [escapeAwareSplit.go]
theorem escapeAwareSplit_go_quote (cur : Str) (r : Str) :
    escapeAwareSplit.go cur ('"' :: r) = cur.reverse :: escapeAwareSplit.go [] r := by
  simp [escapeAwareSplit.go]
theorem escapeAwareSplit_go_other (cur : Str) (c : Char) (r : Str) (h1 : c ≠ '"') (h2 : c ≠ '\\') :
    escapeAwareSplit.go cur (c :: r) = escapeAwareSplit.go (c :: cur) r := by
  rw [escapeAwareSplit.go]
  · simp [h1]
  · intro h _; exact h2 h
  · intro c' r' h _; exact h2 h

theorem escapeAwareSplit_go_plain (s : Str) (h : ∀ c ∈ s, c ≠ '"' ∧ c ≠ '\\') (cur rest : Str) :
    escapeAwareSplit.go cur (s ++ rest) = escapeAwareSplit.go (s.reverse ++ cur) rest := by
  induction s generalizing cur with
  | nil => simp
  | cons c r ih =>
    have hc := h c List.mem_cons_self
    rw [List.cons_append, escapeAwareSplit_go_other cur c _ hc.1 hc.2, ih (fun x hx => h x (List.mem_cons_of_mem _ hx))]
    simp

theorem escapeAwareSplit_go_escaped (t : Str) (h : ∀ c ∈ t, c ≠ '\\') (cur rest : Str) :
    escapeAwareSplit.go cur (escapeQuotes t ++ rest) =
      escapeAwareSplit.go ((escapeQuotes t).reverse ++ cur) rest := by
  induction t generalizing cur with
  | nil => simp [escapeQuotes]
  | cons c r ih =>
    have hr : ∀ x ∈ r, x ≠ '\\' := fun x hx => h x (List.mem_cons_of_mem _ hx)
    by_cases hc : c = '"'
    · subst hc
      rw [escape_quote, List.cons_append, List.cons_append, escapeAwareSplit_go_bs, ih hr]
      simp
    · rw [escape_cons_ne c r hc, List.cons_append, escapeAwareSplit_go_other cur c _ hc (h c List.mem_cons_self), ih hr]
      simp

theorem escapeAwareSplit_go_group (s t rest : Str) (hs : ∀ c ∈ s, c ≠ '"' ∧ c ≠ '\\') (ht : ∀ c ∈ t, c ≠ '\\') :
    escapeAwareSplit.go [] (s ++ '"' :: (escapeQuotes t ++ '"' :: rest)) =
      s :: escapeQuotes t :: escapeAwareSplit.go [] rest := by
  rw [escapeAwareSplit_go_plain s hs, escapeAwareSplit_go_quote, escapeAwareSplit_go_escaped t ht, escapeAwareSplit_go_quote]
  simp

def IntCh (c : Char) : Prop := IsDig c ∨ c = '-'

theorem IntCh.ne {c d : Char} (h : IntCh c) (hd : digitVal d = none) (hm : d ≠ '-') : c ≠ d := by
  rcases h with h | rfl
  · exact h.ne hd
  · exact fun e => hm e.symm

theorem IntCh.not_ws {c : Char} (h : IntCh c) : isWs c = false := by
  rcases h with h | rfl
  · exact isDig_not_ws h
  · rfl

theorem intDigits_chars (k : Int) : ∀ c ∈ intDigits k, IntCh c := by
  unfold intDigits
  split
  · exact List.forall_mem_cons.mpr ⟨Or.inr rfl, fun c hc => Or.inl (natDigits_allDig _ c hc)⟩
  · exact fun c hc => Or.inl (natDigits_allDig _ c hc)

theorem intDigits_ne_nil (k : Int) : intDigits k ≠ [] := by
  unfold intDigits
  split
  · simp
  · exact natDigits_ne_nil _

theorem parseInt_intDigits (k : Int) : parseInt (intDigits k) = some k := by
  obtain ⟨d, ds, hn, hd, hv⟩ := natDigits_cons k.natAbs
  have hm : d ≠ '-' := (hd d List.mem_cons_self).ne rfl
  unfold intDigits
  split
  · next hk =>
    simp only [parseInt, List.isEmpty_eq_false_iff.mpr (natDigits_ne_nil _), digitsToNat_natDigits', Bool.false_eq_true, if_false]
    exact congrArg some (show -(k.natAbs : Int) = k by omega)
  · next hk =>
    rw [hn]
    unfold parseInt
    split
    · next r heq => exact absurd (List.cons.inj heq).1 hm
    · simp only [List.isEmpty_cons, hv, Bool.false_eq_true, if_false]
      exact congrArg some (show (k.natAbs : Int) = k by omega)
/-- the reader's treatment of one `(key text, value text)` pair -/
def valF : Str × Str → Option (Int × Str) :=
  fun (k, t) => (parseInt (stripWs k)).map fun ki => (ki, unescapeQuotes t)

/-- the writer's rendering of one entry -/
def ent : Int × Str → Str := fun (k, t) => ' ' :: intDigits k ++ " \"".toList ++ escapeQuotes t ++ ['"']

/-- one entry in front of the rest, for `VAL_` (key `intDigits k`) and `VAL_TABLE_` (a digit text); `a` are the blanks in front -/
theorem escapeAwareSplit_go_entry (a k t rest : Str) (ha : ∀ c ∈ a, c = ' ') (hq : ∀ c ∈ k, c ≠ '"') (hb : ∀ c ∈ k, c ≠ '\\')
    (hw : ∀ c ∈ k, isWs c = false) (ht : ∀ c ∈ t, c ≠ '\\') :
    ∃ key, escapeAwareSplit.go [] (a ++ (k ++ ' ' :: '"' :: (escapeQuotes t ++ '"' :: rest))) =
      key :: escapeQuotes t :: escapeAwareSplit.go [] rest ∧ stripWs key = k := by
  refine ⟨a ++ k ++ [' '], ?_, stripWs_pad a k [' '] (fun c hc => by rw [ha c hc]; rfl) (by simp [isWs]) hw⟩
  have hshape : a ++ (k ++ ' ' :: '"' :: (escapeQuotes t ++ '"' :: rest)) =
      (a ++ k ++ [' ']) ++ '"' :: (escapeQuotes t ++ '"' :: rest) := by
    simp only [List.append_assoc, List.cons_append, List.nil_append]
  rw [hshape]
  exact escapeAwareSplit_go_group _ t _ (List.forall_mem_append.mpr ⟨List.forall_mem_append.mpr
    ⟨fun c hc => by rw [ha c hc]; decide, fun c hc => ⟨hq c hc, hb c hc⟩⟩, by decide⟩) ht

theorem entries_split_cons (a : Str) (ha : ∀ c ∈ a, c = ' ') (k : Int) (t : Str) (r es : List (Int × Str))
    (ht : ∀ c ∈ t, c ≠ '\\') (hr : (pairUp (escapeAwareSplit.go [] (r.flatMap ent))).mapM valF = some es) :
    (pairUp (escapeAwareSplit.go [] (a ++ intDigits k ++ " \"".toList ++ escapeQuotes t ++ ['"'] ++ r.flatMap ent))).mapM valF =
      some ((k, t) :: es) := by
  obtain ⟨key, hgo, hkey⟩ := escapeAwareSplit_go_entry a (intDigits k) t (r.flatMap ent) ha
    (hq := fun c hc => (intDigits_chars k c hc).ne rfl (by decide)) (hb := fun c hc => (intDigits_chars k c hc).ne rfl (by decide))
    (hw := fun c hc => (intDigits_chars k c hc).not_ws) ht
  have hshape : a ++ intDigits k ++ " \"".toList ++ escapeQuotes t ++ ['"'] ++ r.flatMap ent =
      a ++ (intDigits k ++ ' ' :: '"' :: (escapeQuotes t ++ '"' :: r.flatMap ent)) := by
    lit_chars
    simp only [List.append_assoc, List.cons_append, List.nil_append]
  have hv : valF (key, escapeQuotes t) = some (k, t) := by
    unfold valF
    simp only [hkey, parseInt_intDigits, unescape_escape, Option.map_some]
  rw [hshape, hgo, pairUp, List.mapM_cons, hv, hr]
  rfl

theorem entries_split (es : List (Int × Str)) (h : ∀ e ∈ es, ∀ c ∈ e.2, c ≠ '\\') :
    (pairUp (escapeAwareSplit.go [] (es.flatMap ent))).mapM valF = some es := by
  induction es with
  | nil => simp [escapeAwareSplit_go_nil, pairUp]
  | cons e r ih =>
    have := entries_split_cons [' '] (by simp) e.1 e.2 r r (h e List.mem_cons_self)
      (ih (fun e he => h e (List.mem_cons_of_mem _ he)))
    simpa [ent] using this

theorem lit_val : "VAL_ ".toList = ['V', 'A', 'L', '_', ' '] := String.toList_ofList

/-- (head and tail of id and name apart: the reader matches each token against `[]` first) -/
theorem parseVal_shape (d : Char) (ds : Str) (n : Char) (ns : Str) (body : Str) (id : Nat)
    (es : List (Int × Str))
    (hd : AllDig (d :: ds)) (hid : digitsToNat (d :: ds) = some id)
    (hn : ∀ c ∈ n :: ns, isBlank c = false)
    (hb : skipSp (body ++ [';']) = body ++ [';'])
    (hes : (pairUp (escapeAwareSplit body)).mapM valF = some es) :
    parseVal ('V' :: 'A' :: 'L' :: '_' :: ' ' :: ((d :: ds) ++ ' ' :: ((n :: ns) ++ ' ' :: (body ++ [';'])))) =
      some ⟨id, n :: ns, es⟩ := by
  have hlastSemi : ((body ++ [';']).reverse.dropWhile (· != ';')) = ';' :: body.reverse := by
    simp
  unfold valF at hes
  simp only [parseVal, lit_val, startsWith_cons, startsWith_nil, Bool.not_true, Bool.false_eq_true, ↓reduceIte,
    List.drop_succ_cons, List.drop_zero, tok_num d ds _ hd, tok_word n ns _ hn, hb, hlastSemi, List.reverse_reverse, hid,
    Option.bind_some, hes, Option.map_some]

theorem renderVal_shape (id : Nat) (name : Str) (k : Int) (t : Str) (r : List (Int × Str)) :
    renderVal ⟨id, name, (k, t) :: r⟩ =
      'V' :: 'A' :: 'L' :: '_' :: ' ' :: (natDigits id ++ ' ' :: (name ++ ' ' ::
        ((intDigits k ++ " \"".toList ++ escapeQuotes t ++ ['"'] ++ r.flatMap ent) ++ [';']))) := by
  unfold renderVal
  show "VAL_ ".toList ++ natDigits id ++ ' ' :: name ++ ((k, t) :: r).flatMap ent ++ [';'] = _
  simp [ent]

/-- the round trip for a statement with at least one entry (the writer emits `VAL_` only under
`if signal.values:`; with no entry the rendered line `VAL_ 5 abc;` is not read, see `val_empty_not_read`) -/
theorem parseVal_renderVal (v : ValLine) (h : wfVal v = true) (hne : v.entries ≠ []) :
    parseVal (stripWs (renderVal v)) = some v := by
  obtain ⟨id, name, es⟩ := v
  obtain ⟨⟨k, t⟩, r, rfl⟩ := List.exists_cons_of_ne_nil hne
  simp only [wfVal, Bool.and_eq_true, List.all_eq_true, List.all_cons] at h
  obtain ⟨hname, ht, hr⟩ := h
  obtain ⟨n, ns, rfl⟩ := List.exists_cons_of_ne_nil (isIdent_ne_nil hname)
  obtain ⟨d, ds, hnd, hd, hid⟩ := natDigits_cons id
  obtain ⟨x, xs, hx⟩ := List.exists_cons_of_ne_nil (intDigits_ne_nil k)
  rw [renderVal_shape]
  -- the line begins with `V` and ends in `;`: stripping changes nothing
  rw [stripWs_id _ 'V' ';' rfl (by simp [List.getLast?_append, List.getLast?_cons]) (by decide) (by decide), hnd]
  refine parseVal_shape d ds n ns _ id ((k, t) :: r) hd hid (ident_not_blank hname) ?_ ?_
  · rw [hx]
    exact skipSp_of_ne x _ ((intDigits_chars k x (by rw [hx]; exact List.mem_cons_self)).ne rfl (by decide))
  · exact entries_split_cons [] (fun _ h => nomatch h) k t r r (wfText_no_bs t ht)
      (entries_split r (fun e he => wfText_no_bs e.2 (hr e he)))

/-- the excluded case: a statement without entries is rendered as `VAL_ 5 abc;`, which the reader's pattern
does not match (the name group takes `abc;`, no blank follows) -/
theorem val_empty_not_read : parseVal (stripWs (renderVal ⟨5, "abc".toList, []⟩)) = none := by decide +kernel

end CanVerif.Dbc.ValProofs
