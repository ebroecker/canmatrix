import CanVerif.Model.DbcStmt
import CanVerif.Proofs.DbcVal
/-!
# The statements `BO_TX_BU_`, `SIG_VALTYPE_`, `SG_MUL_VAL_` are read back as written (Props/C05b.lean)

The readers are walked with the stage lemmas of Proofs/DbcTok.lean; here also `split` without stripping against the joins of the writer.
-/
namespace CanVerif.Dbc.StmtProofs
open CanVerif CanVerif.Num CanVerif.Dbc

/- keyword literals as rewrite rules inside an unfolded reader, as in Proofs/DbcTok.lean (`lit_chars` works on a whole goal) -/
theorem lit_tx : "BO_TX_BU_ ".toList = ['B', 'O', '_', 'T', 'X', '_', 'B', 'U', '_', ' '] := String.toList_ofList
theorem lit_vt : "SIG_VALTYPE_ ".toList = ['S', 'I', 'G', '_', 'V', 'A', 'L', 'T', 'Y', 'P', 'E', '_', ' '] :=
  String.toList_ofList
theorem lit_mul : "SG_MUL_VAL_ ".toList = ['S', 'G', '_', 'M', 'U', 'L', '_', 'V', 'A', 'L', '_', ' '] := String.toList_ofList

theorem upto_snoc (b : Str) : uptoLastSemicolon (b ++ [';']) = some b := by
  unfold uptoLastSemicolon
  simp

/-- the model has this function twice: as `splitOn` for the frame section (Model/DbcText.lean) and as `splitRaw` here -/
theorem splitRaw_go_eq (sep : Char) (cur s : Str) : splitRaw.go sep cur s = splitOn.go sep cur s := by
  induction s generalizing cur with
  | nil => rfl
  | cons c r ih => simp only [splitRaw.go, splitOn.go, ih]

theorem splitRaw_go_append (sep : Char) (a cur rest : Str) (h : ∀ c ∈ a, c ≠ sep) :
    splitRaw.go sep cur (a ++ rest) = splitRaw.go sep (a.reverse ++ cur) rest := by
  rw [splitRaw_go_eq, splitRaw_go_eq]
  exact splitOn_go_append sep a cur rest h

theorem splitRaw_go_sep (sep : Char) (cur rest : Str) :
    splitRaw.go sep cur (sep :: rest) = cur.reverse :: splitRaw.go sep [] rest := by
  simp [splitRaw.go]

theorem splitRaw_go_last (sep : Char) (a cur : Str) (h : ∀ c ∈ a, c ≠ sep) :
    splitRaw.go sep cur a = [cur.reverse ++ a] := by
  rw [← List.append_nil a, splitRaw_go_append sep a cur [] h]
  simp [splitRaw.go]

/-- Splitting undoes joining with the separator.  `join` stands for `joinComma` or `joinLines`, given by the two equations that
define either. -/
theorem splitRaw_go_join (sep : Char) (join : List Str → Str) (h1 : ∀ a, join [a] = a)
    (h2 : ∀ a b r, join (a :: b :: r) = a ++ sep :: join (b :: r)) (a : Str) (rs : List Str) (cur : Str)
    (h : ∀ r ∈ a :: rs, ∀ c ∈ r, c ≠ sep) :
    splitRaw.go sep cur (join (a :: rs)) = (cur.reverse ++ a) :: rs := by
  induction rs generalizing a cur with
  | nil => rw [h1]; exact splitRaw_go_last sep a cur (h a (by simp))
  | cons b rs ih =>
    rw [h2, splitRaw_go_append sep a cur _ (h a (by simp)), splitRaw_go_sep,
      ih b [] (fun r hr => h r (List.mem_cons_of_mem _ hr))]
    simp

theorem splitRaw_joinComma (rs : List Str) (hne : rs ≠ []) (h : ∀ r ∈ rs, ∀ c ∈ r, c ≠ ',') :
    splitRaw ',' (joinComma rs) = rs := by
  obtain ⟨a, rs, rfl⟩ := List.exists_cons_of_ne_nil hne
  exact splitRaw_go_join ',' joinComma (fun _ => rfl) (fun _ _ _ => rfl) a rs [] h

theorem joinCommaBlank_eq (rs : List Str) : joinCommaBlank rs = joinCommaSp 1 rs := by
  induction rs with
  | nil => rfl
  | cons a rs ih =>
    cases rs with
    | nil => rfl
    | cons b rs => rw [joinCommaSp_cons2, ← ih]; rfl

theorem splitRaw_joinCommaBlank (a : Str) (rs : List Str) (h : ∀ r ∈ a :: rs, ∀ c ∈ r, c ≠ ',') :
    splitRaw ',' (joinCommaBlank (a :: rs)) = a :: rs.map (' ' :: ·) := by
  unfold splitRaw
  rw [splitRaw_go_eq, joinCommaBlank_eq, splitOn_go_joinCommaSp 1 a rs [] h]
  rfl

theorem renderTx_eq (t : TxLine) :
    renderTx t = 'B' :: 'O' :: '_' :: 'T' :: 'X' :: '_' :: 'B' :: 'U' :: '_' :: ' ' ::
      (natDigits t.id ++ ' ' :: ':' :: ' ' :: (joinComma t.ecus ++ [';'])) := by
  unfold renderTx
  lit_chars
  simp only [List.append_assoc]
  rfl

theorem wfTx_unpack {t : TxLine} (h : wfTx t = true) : t.ecus ≠ [] ∧ ∀ r ∈ t.ecus, isIdent r = true := by
  simp only [wfTx, Bool.and_eq_true, Bool.not_eq_true', List.isEmpty_eq_false_iff, List.all_eq_true] at h
  exact ⟨h.1, h.2⟩

theorem parseTx_renderTx (t : TxLine) (h : wfTx t = true) : parseTx (renderTx t) = some t := by
  obtain ⟨hne, hr⟩ := wfTx_unpack h
  obtain ⟨d, ds, hnd, hd, hid⟩ := natDigits_cons t.id
  obtain ⟨x, xs, hx, hxi⟩ := joinCommaSp_zero t.ecus ▸ joinCommaSp_head 0 t.ecus hne hr
  have hnonempty : (joinComma t.ecus).isEmpty = false := List.isEmpty_eq_false_iff.mpr (hx ▸ List.cons_ne_nil x xs)
  have hsplit : splitRaw ',' (joinComma t.ecus) = t.ecus :=
    splitRaw_joinComma t.ecus hne (fun r hr' c hc => identChar_ne_comma (isIdent_all (hr r hr') c hc))
  rw [renderTx_eq, hnd]
  simp only [parseTx, lit_tx, startsWith_cons, startsWith_nil, Bool.not_true, Bool.false_eq_true, ↓reduceIte,
    List.drop_succ_cons, List.drop_zero, tok_num d ds _ hd, skipSp_blank_ne ':' _ (by decide),
    skipSp_blank_body _ _ x xs hx (identChar_ne_space hxi), upto_snoc, hnonempty, hid, Option.map_some, hsplit]

theorem addTransmitters_append (acc l : List Str) (h : (acc ++ l).Nodup) : addTransmitters acc l = acc ++ l := by
  induction l generalizing acc with
  | nil => simp [addTransmitters]
  | cons n l ih =>
    have hn : n ∉ acc := fun hm => (List.nodup_append.mp h).2.2 n hm n List.mem_cons_self rfl
    have hstep : addTransmitters acc (n :: l) = addTransmitters (acc ++ [n]) l := by
      simp [addTransmitters, hn]
    rw [hstep, ih (acc ++ [n]) (by simpa using h)]
    simp

theorem addTransmitters_after_first (first : Str) (rest : List Str) (h : (first :: rest).Nodup) :
    addTransmitters [first] (first :: rest) = first :: rest := by
  have hstep : addTransmitters [first] (first :: rest) = addTransmitters [first] rest := by
    simp [addTransmitters]
  rw [hstep, addTransmitters_append [first] rest (by simpa using h)]
  rfl

theorem renderValType_eq (v : ValTypeLine) :
    renderValType v = 'S' :: 'I' :: 'G' :: '_' :: 'V' :: 'A' :: 'L' :: 'T' :: 'Y' :: 'P' :: 'E' :: '_' :: ' ' ::
      (natDigits v.id ++ ' ' :: (v.name ++ ' ' :: ':' :: ' ' :: ([if v.double then '2' else '1'] ++ [';']))) := by
  unfold renderValType
  lit_chars
  simp only [List.append_assoc]
  rfl

theorem parseValType_renderValType (v : ValTypeLine) (h : wfValType v = true) :
    parseValType (renderValType v) = some (v.id, v.name) := by
  obtain ⟨d, ds, hnd, hd, hid⟩ := natDigits_cons v.id
  obtain ⟨n, ns, hname⟩ := List.exists_cons_of_ne_nil (isIdent_ne_nil h)
  have hcolon (r : Str) : (' ' :: ':' :: r).dropWhile isBlank = ':' :: r := by
    rw [List.dropWhile_cons, if_pos (by decide), List.dropWhile_cons, if_neg (by decide)]
  have hsemi (c : Char) : uptoLastSemicolon (' ' :: ([c] ++ [';'])) = some [' ', c] := upto_snoc [' ', c]
  rw [renderValType_eq, hnd, hname]
  simp only [parseValType, lit_vt, startsWith_cons, startsWith_nil, Bool.not_true, Bool.false_eq_true, ↓reduceIte,
    List.drop_succ_cons, List.drop_zero, tok_word d ds _ (digits_not_blank hd),
    tok_word n ns _ (ident_not_blank (hname ▸ h)), hcolon, hsemi, hid, Option.map_some]

theorem mapM_map_of {α β : Type} (f : α → β) (g : β → Option α) (l : List α) (h : ∀ x ∈ l, g (f x) = some x) :
    (l.map f).mapM g = some l := by
  induction l with
  | nil => rfl
  | cons a l ih =>
    rw [List.map_cons, List.mapM_cons, h a (by simp), ih (fun x hx => h x (List.mem_cons_of_mem _ hx))]
    rfl

theorem parseBound_pad (pre : Str) (hpre : ∀ c ∈ pre, c = ' ') (n : Nat) : parseBound (pre ++ natDigits n) = some n := by
  have hs : stripWs (pre ++ natDigits n) = natDigits n := by
    simpa using stripWs_pad pre (natDigits n) [] (fun c hc => by rw [hpre c hc]; decide) (by simp)
      (fun c hc => isDig_not_ws (natDigits_allDig n c hc))
  unfold parseBound
  simp only [hs, List.isEmpty_eq_false_iff.mpr (natDigits_ne_nil n)]
  exact digitsToNat_natDigits' n

/-- one range as the writer prints it -/
def rng (r : Nat × Nat) : Str := natDigits r.1 ++ '-' :: natDigits r.2

theorem parseRange_pad (pre : Str) (hpre : ∀ c ∈ pre, c = ' ') (r : Nat × Nat) : parseRange (pre ++ rng r) = some r := by
  obtain ⟨a, b⟩ := r
  have h1 : ∀ c ∈ pre ++ natDigits a, c ≠ '-' :=
    List.forall_mem_append.mpr ⟨fun c hc => by rw [hpre c hc]; decide, fun c hc => (natDigits_allDig a c hc).ne rfl⟩
  have hs : splitRaw '-' (pre ++ rng (a, b)) = [pre ++ natDigits a, natDigits b] := by
    unfold splitRaw rng
    rw [← List.append_assoc, splitRaw_go_append '-' (pre ++ natDigits a) [] _ h1, splitRaw_go_sep,
      splitRaw_go_last '-' (natDigits b) [] (fun c hc => (natDigits_allDig b c hc).ne rfl)]
    simp
  unfold parseRange
  rw [hs]
  simp only
  rw [parseBound_pad pre hpre a, show parseBound (natDigits b) = some b from parseBound_pad [] (by simp) b]
  rfl

theorem rng_ne_comma (r : Nat × Nat) : ∀ c ∈ rng r, c ≠ ',' :=
  List.forall_mem_append.mpr ⟨fun c hc => (natDigits_allDig _ c hc).ne rfl,
    List.forall_mem_cons.mpr ⟨by decide, fun c hc => (natDigits_allDig _ c hc).ne rfl⟩⟩

theorem rng_head (r : Nat × Nat) : ∃ x t, rng r = x :: t ∧ x ≠ ' ' := by
  obtain ⟨x, t, hx⟩ := List.exists_cons_of_ne_nil (natDigits_ne_nil r.1)
  refine ⟨x, t ++ '-' :: natDigits r.2, by unfold rng; rw [hx]; rfl, ?_⟩
  exact (natDigits_allDig r.1 x (by rw [hx]; simp)).ne rfl

theorem mapM_ranges (r : Nat × Nat) (rs : List (Nat × Nat)) :
    (splitRaw ',' (joinCommaBlank ((r :: rs).map rng))).mapM parseRange = some (r :: rs) := by
  rw [List.map_cons, splitRaw_joinCommaBlank (rng r) (rs.map rng)]
  · rw [List.mapM_cons, show parseRange (rng r) = some r from parseRange_pad [] (by simp) r, List.map_map,
      mapM_map_of ((' ' :: ·) ∘ rng) parseRange rs (fun x _ => parseRange_pad [' '] (by simp) x)]
    rfl
  · exact List.forall_mem_cons.mpr ⟨rng_ne_comma r, List.forall_mem_map.mpr fun q _ => rng_ne_comma q⟩

theorem renderMul_eq (m : MulLine) :
    renderMul m = 'S' :: 'G' :: '_' :: 'M' :: 'U' :: 'L' :: '_' :: 'V' :: 'A' :: 'L' :: '_' :: ' ' ::
      (natDigits m.id ++ ' ' :: (m.sig ++ ' ' :: (m.muxer ++ ' ' :: (joinCommaBlank (m.ranges.map rng) ++ [';'])))) := by
  have hf : (fun (x : Nat × Nat) => match x with | (a, b) => natDigits a ++ '-' :: natDigits b) = rng := by
    funext x; obtain ⟨a, b⟩ := x; rfl
  unfold renderMul
  rw [hf]
  lit_chars
  simp only [List.append_assoc]
  rfl

theorem wfMul_unpack {m : MulLine} (h : wfMul m = true) : isIdent m.sig = true ∧ isIdent m.muxer = true := by
  simpa [wfMul] using h

theorem skipSp_ranges (rs : List (Nat × Nat)) :
    skipSp (' ' :: (joinCommaBlank (rs.map rng) ++ [';'])) = joinCommaBlank (rs.map rng) ++ [';'] := by
  cases rs with
  | nil => decide
  | cons r rs =>
    obtain ⟨x, t, hx, hne⟩ := rng_head r
    obtain ⟨u, hu⟩ : ∃ u, joinCommaBlank ((r :: rs).map rng) = x :: u := by
      cases rs with
      | nil => exact ⟨t, hx⟩
      | cons r2 rs => exact ⟨_, by simp only [List.map_cons, joinCommaBlank, hx, List.cons_append]; rfl⟩
    exact skipSp_blank_body _ _ x u hu hne

theorem parseMul_renderMul_pieces (m : MulLine) (h : wfMul m = true) :
    parseMul (renderMul m) =
      ((splitRaw ',' (joinCommaBlank (m.ranges.map rng))).mapM parseRange).map fun rs => { m with ranges := rs } := by
  obtain ⟨hs, hm⟩ := wfMul_unpack h
  obtain ⟨id, sig, muxer, ranges⟩ := m
  obtain ⟨d, ds, hnd, hd, hid⟩ := natDigits_cons id
  obtain ⟨s, ss, rfl⟩ := List.exists_cons_of_ne_nil (isIdent_ne_nil hs)
  obtain ⟨x, xs, rfl⟩ := List.exists_cons_of_ne_nil (isIdent_ne_nil hm)
  rw [renderMul_eq, hnd]
  simp only [parseMul, lit_mul, startsWith_cons, startsWith_nil, Bool.not_true, Bool.false_eq_true, ↓reduceIte,
    List.drop_succ_cons, List.drop_zero, tok_num d ds _ hd, tok_word s ss _ (ident_not_blank hs),
    tok_word x xs _ (ident_not_blank hm), skipSp_ranges, upto_snoc, hid, Option.bind_some]

theorem parseMul_renderMul (m : MulLine) (h : wfMul m = true) (hne : m.ranges ≠ []) : parseMul (renderMul m) = some m := by
  obtain ⟨r, rs, hr⟩ := List.exists_cons_of_ne_nil hne
  rw [parseMul_renderMul_pieces m h, hr, mapM_ranges r rs, ← hr]
  rfl

theorem parseMul_no_ranges (m : MulLine) (h : wfMul m = true) (he : m.ranges = []) : parseMul (renderMul m) = none := by
  rw [parseMul_renderMul_pieces m h, he]
  -- `"".split("-")` has one part, not two
  rfl

end CanVerif.Dbc.StmtProofs
