import CanVerif.Model.DbcFile
import CanVerif.Proofs.DbcStmt
import CanVerif.Proofs.DbcAttr
import CanVerif.Proofs.DbcTables
import CanVerif.Proofs.DbcComment
import CanVerif.Proofs.DbcVal
import CanVerif.Proofs.DbcText
import CanVerif.Proofs.StrLit
/-!
# The DBC reader as a whole (Model/DbcFile.lean)

The dispatcher tells a written line by its keyword, whatever follows it (`classify_keyword`, once for the table `keywordOf`); with the
round trip of the statement's parser this gives `scan_stmt`.  The error counter is never read (`stepFile_addErr`), which lets lines whose
handler raises stand anywhere between the statements (`read_with_bad`).  A comment over several lines puts the reader into a follow-up
state and out of it again (`fold_cm`).
-/
namespace CanVerif.Dbc.FileProofs
open CanVerif CanVerif.Dbc CanVerif.Dbc.CommentProofs CanVerif.Num

def EndsSemi (s : Str) : Prop := s.getLast? = some ';'
theorem EndsSemi.one : EndsSemi [';'] := rfl
theorem EndsSemi.append (a : Str) {b : Str} (h : EndsSemi b) : EndsSemi (a ++ b) := by
  unfold EndsSemi at *; rw [List.getLast?_append, h]; rfl

theorem stripWs_semi (s : Str) (a : Char) (h1 : s.head? = some a) (ha : isWs a = false) (h2 : EndsSemi s) :
    stripWs s = s := stripWs_id s a ';' h1 h2 ha (by decide)

theorem dropWhile_append_stop (p : Char → Bool) (u v : Str) (c : Char) (hv : v.head? = some c) (hc : p c = false) :
    (u ++ v).dropWhile p = u.dropWhile p ++ v := by
  rw [List.dropWhile_append]
  split
  · rename_i h
    rw [List.isEmpty_iff.mp h, dropWhile_none p v (by rw [hv]; intro x hx; cases hx; exact hc)]
    rfl
  · rfl

theorem stripWs_head_body (a b : Str) (x y : Char) (hx : a.head? = some x) (hy : a.getLast? = some y)
    (hxw : isWs x = false) (hyw : isWs y = false) : stripWs (a ++ b) = a ++ rstripWs b := by
  unfold stripWs rstripWs
  have e1 : (a ++ b).dropWhile isWs = a ++ b :=
    dropWhile_none _ _ (by rw [List.head?_append, hx]; intro c hc; cases hc; exact hxw)
  rw [e1, List.reverse_append]
  rw [dropWhile_append_stop isWs b.reverse a.reverse y (List.head?_reverse.trans hy) hyw]
  simp

theorem startsWith_cons_ite (a b : Char) (s p : Str) : startsWith (a :: s) (b :: p) = if a = b then startsWith s p else false := by
  by_cases h : a = b <;> simp [startsWith, h]
theorem and_eq_ite (a b : Bool) : (a && b) = if a = true then b else false := by cases a <;> rfl

/-- The keyword of a statement kind, for the kinds the `startswith` chain tells by a fixed beginning of the stripped line.  (A `BA_DEF_`
line needs a look at what follows the keyword: `classify_def`; `BO_` and `SG_` lines have their lemmas in Proofs/DbcText.) -/
def keywordOf : LineKind → Option String
  | .boTxBu => "BO_TX_BU_ "
  | .cmSg => "CM_ SG_ "
  | .cmBo => "CM_ BO_ "
  | .cmBu => "CM_ BU_ "
  | .bu => "BU_:"
  | .val => "VAL_ "
  | .valTable => "VAL_TABLE_ "
  | .ba => "BA_ "
  | .sigGroup => "SIG_GROUP_ "
  | .sigValtype => "SIG_VALTYPE_ "
  | .baDefDef => "BA_DEF_DEF_ "
  | .sgMulVal => "SG_MUL_VAL_ "
  | _ => none

theorem keyword_head {kind : LineKind} {kw : String} (hk : keywordOf kind = some kw) :
    ∃ c t, kw.toList = c :: t ∧ isWs c = false := by
  cases kind <;> simp only [keywordOf, Option.some.injEq, reduceCtorEq] at hk <;> subst hk <;> rw [String.toList_ofList] <;>
    exact ⟨_, _, rfl, by decide⟩

/-- each test of the chain in front of the keyword's own fails on a character of the keyword -/
theorem classify_keyword (kind : LineKind) (kw : String) (hk : keywordOf kind = some kw) (l r : Str)
    (hs : stripWs l = kw.toList ++ r) : classify l = kind := by
  unfold classify cmClass
  rw [hs]
  lit_chars
  -- (the tests as `if`s, rewritten from the outside: `simp` then looks at a test only up to the character that decides it)
  cases kind <;> simp only [keywordOf, Option.some.injEq, reduceCtorEq] at hk <;> subst hk <;> rw [String.toList_ofList] <;>
    simp only [↓and_eq_ite, startsWith_cons_ite, startsWith_nil, List.cons_append, List.nil_append, List.drop_succ_cons, List.drop_zero,
      List.dropWhile_cons, Char.reduceBEq, Char.reduceEq, Bool.false_eq_true, ↓reduceIte]
  -- `BA_DEF_DEF_` is left: it passes the test for `BA_DEF_` with a class keyword, which looks at the three characters behind `BA_DEF_`
  case baDefDef =>
    have e : stripWs ('D' :: 'E' :: 'F' :: '_' :: ' ' :: r) = 'D' :: 'E' :: 'F' :: rstripWs ('_' :: ' ' :: r) :=
      stripWs_head_body ['D', 'E', 'F'] _ 'D' 'F' rfl rfl (by decide) (by decide)
    simp only [e, List.take_succ_cons, List.take_zero]
    exact if_neg (by decide)

theorem keyword_line (kind : LineKind) (kw : String) (hk : keywordOf kind = some kw) (l : Str) (hp : kw.toList <+: l)
    (he : EndsSemi l) : l.isEmpty = false ∧ stripWs l = l ∧ classify l = kind := by
  obtain ⟨r, rfl⟩ := hp
  obtain ⟨c, t, hc, hw⟩ := keyword_head hk
  have hs : stripWs (kw.toList ++ r) = kw.toList ++ r := stripWs_semi _ c (by rw [hc]; rfl) hw he
  exact ⟨by rw [hc]; rfl, hs, classify_keyword kind kw hk _ r hs⟩

/-- a `BA_DEF_` line is dispatched to one of the two kinds that share the parser `parseDef` -/
theorem classify_def (l r : Str) (hs : stripWs l = "BA_DEF_ ".toList ++ r) :
    classify l = .baDefTyped ∨ classify l = .baDef := by
  unfold classify cmClass
  rw [hs]
  lit_chars
  simp only [↓and_eq_ite, startsWith_cons_ite, startsWith_nil, List.cons_append, List.nil_append, Char.reduceEq, Bool.false_eq_true,
    ↓reduceIte]
  split
  · exact Or.inl rfl
  · exact Or.inr rfl

theorem renderBu_shift (names : List Str) :
    (' ' :: names.flatMap fun n => n ++ [' ']) = (names.flatMap fun n => ' ' :: n) ++ [' '] := by
  induction names with
  | nil => rfl
  | cons n r ih =>
    have : n ++ ' ' :: (r.flatMap fun n => n ++ [' ']) = n ++ ((r.flatMap fun n => ' ' :: n) ++ [' ']) := by rw [ih]
    simp only [List.flatMap_cons, List.append_assoc, List.cons_append, List.nil_append]
    rw [this]

theorem lastOK_members (names : List Str) (hne : names ≠ []) (h : ∀ n ∈ names, isIdent n = true) :
    LastOK (names.flatMap fun n => ' ' :: n) := by
  induction names with
  | nil => exact absurd rfl hne
  | cons n r ih =>
    simp only [List.flatMap_cons]
    cases r with
    | nil => simp only [List.flatMap_nil, List.append_nil]; exact LastOK.cons ' ' (LastOK.of_isIdent (h n (by simp)))
    | cons m r' => exact LastOK.append _ (ih (by simp) (fun x hx => h x (List.mem_cons_of_mem _ hx)))

theorem stripWs_renderBu (names : List Str) (h : ∀ n ∈ names, isIdent n = true) :
    stripWs (renderBu names) = 'B' :: 'U' :: '_' :: ':' :: (names.flatMap fun n => ' ' :: n) := by
  unfold renderBu
  lit_chars
  simp only [List.cons_append, List.nil_append]
  rw [renderBu_shift]
  show stripWs (('B' :: 'U' :: '_' :: ':' :: (names.flatMap fun n => ' ' :: n)) ++ [' ']) = _
  cases names with
  | nil => decide
  | cons n r =>
    obtain ⟨c, hc, hi⟩ := (lastOK_members (n :: r) (by simp) h).cons ':' |>.cons '_' |>.cons 'U' |>.cons 'B'
    rw [stripWs_head_body _ _ 'B' c rfl hc (by decide) (identChar_not_ws hi)]
    simp [rstripWs, isWs]

theorem scan_bu (names : List Str) (h : ∀ n ∈ names, isIdent n = true ∧ n.length ≥ 2) :
    scanLine (renderBu names) = .item (.bu names) := by
  have hid : ∀ n ∈ names, isIdent n = true := fun n hn => (h n hn).1
  have hs := stripWs_renderBu names hid
  have hc := classify_keyword .bu _ rfl (renderBu names) _ (by rw [String.toList_ofList]; exact hs)
  simp only [scanLine, hs, hc, List.isEmpty_cons, Bool.false_eq_true, if_false]
  congr 2
  unfold parseBu splitRaw
  simp only [List.drop_succ_cons, List.drop_zero]
  rw [TableProofs.splitRaw_go_members names [] (fun m hm c hc => identChar_ne_space (isIdent_all (hid m hm) c hc))]
  simp only [List.reverse_nil, List.filter_cons]
  simp only [show decide ((stripWs ([] : Str)).length > 1) = false by decide, Bool.false_eq_true, if_false]
  apply List.filter_eq_self.mpr
  intro n hn
  rw [stripWs_ident (hid n hn)]
  have := (h n hn).2
  simp only [gt_iff_lt, decide_eq_true_eq]
  omega

theorem scan_stmt (s : Stmt) (h : s.wf = true) :
    scanLine s.line = match s.item with
      | some it => .item it
      | none => .skip := by
  cases s with
  | gap => simp [Stmt.line, Stmt.item, scanLine, stripWs]
  | bo b =>
    have hp := parseBo_renderBo b h
    have hs := stripWs_renderBo b h
    have hne : (renderBo b).isEmpty = false := by rw [renderBo_eq]; rfl
    rw [hs] at hp
    simp only [Stmt.line, Stmt.item, scanLine, classify_renderBo b h, hs, hne, hp, Bool.false_eq_true, if_false]
  | sg s =>
    obtain ⟨_, _, h3, h4⟩ := wfSg_unpack h
    have hne : (stripWs (renderSg s)).isEmpty = false := by rw [stripWs_renderSg s h3 h4]; rfl
    simp only [Stmt.line, Stmt.item, scanLine, classify_renderSg s h, parseSg_renderSg s h, hne, Bool.false_eq_true, if_false]
  | tx t =>
    obtain ⟨hne, hs, hc⟩ := keyword_line .boTxBu _ rfl (renderTx t)
      (by unfold renderTx; simp only [List.append_assoc]; exact List.prefix_append _ _) (EndsSemi.append _ EndsSemi.one)
    simp only [Stmt.line, Stmt.item, scanLine, hne, hs, hc, StmtProofs.parseTx_renderTx t h, Bool.false_eq_true, if_false]
  | val v =>
    simp only [Stmt.wf, Bool.and_eq_true, Bool.not_eq_true', List.isEmpty_eq_false_iff] at h
    obtain ⟨hne, hs, hc⟩ := keyword_line .val _ rfl (renderVal v)
      (by unfold renderVal; simp only [List.append_assoc]; exact List.prefix_append _ _) (EndsSemi.append _ EndsSemi.one)
    have hp := ValProofs.parseVal_renderVal v h.1 h.2
    rw [hs] at hp
    simp only [Stmt.line, Stmt.item, scanLine, hne, hs, hc, hp, Bool.false_eq_true, if_false]
  | vt v =>
    obtain ⟨hne, hs, hc⟩ := keyword_line .valTable _ rfl (renderVt v)
      (by unfold renderVt; simp only [List.append_assoc]; exact List.prefix_append _ _) (EndsSemi.append _ EndsSemi.one)
    simp only [Stmt.line, Stmt.item, scanLine, hne, hs, hc, TableProofs.parseVt_renderVt v h, Bool.false_eq_true, if_false]
  | adef d =>
    obtain ⟨r, hr⟩ : "BA_DEF_ ".toList <+: renderDef d := by
      unfold renderDef; simp only [List.append_assoc]; exact List.prefix_append _ _
    have hs : stripWs (renderDef d) = renderDef d :=
      stripWs_semi _ 'B' (by rw [← hr, String.toList_ofList]; rfl) (by decide) (EndsSemi.append _ EndsSemi.one)
    have hne : (renderDef d).isEmpty = false := by rw [← hr, String.toList_ofList]; rfl
    rcases classify_def _ r (hs.trans hr.symm) with hc | hc <;>
      simp only [Stmt.line, Stmt.item, scanLine, hne, hs, hc, AttrProofs.parseDef_renderDef d h, Bool.false_eq_true, if_false]
  | defdef d =>
    obtain ⟨hne, hs, hc⟩ := keyword_line .baDefDef _ rfl (renderDefDef d)
      (by unfold renderDefDef; lit_chars; exact ⟨_, rfl⟩) (EndsSemi.append _ EndsSemi.one)
    simp only [Stmt.line, Stmt.item, scanLine, hne, hs, hc, AttrProofs.parseDefDef_renderDefDef d h, Bool.false_eq_true, if_false]
  | ba b =>
    obtain ⟨hne, hs, hc⟩ := keyword_line .ba _ rfl (renderBa b)
      (by unfold renderBa; lit_chars; exact ⟨_, rfl⟩) (EndsSemi.append _ EndsSemi.one)
    simp only [Stmt.line, Stmt.item, scanLine, hne, hs, hc, AttrProofs.parseBa_renderBa b h, Bool.false_eq_true, if_false]
  | grp g =>
    obtain ⟨hne, hs, hc⟩ := keyword_line .sigGroup _ rfl (renderGroup g)
      (by unfold renderGroup; simp only [List.append_assoc]; exact List.prefix_append _ _) (EndsSemi.append _ EndsSemi.one)
    simp only [Stmt.line, Stmt.item, scanLine, hne, hs, hc, TableProofs.parseGroup_renderGroup g h, Bool.false_eq_true, if_false]
  | valtype v =>
    obtain ⟨hne, hs, hc⟩ := keyword_line .sigValtype _ rfl (renderValType v)
      (by unfold renderValType; simp only [List.append_assoc]; exact List.prefix_append _ _)
      (EndsSemi.append _ (EndsSemi.append [_] EndsSemi.one))
    simp only [Stmt.line, Stmt.item, scanLine, hne, hs, hc, StmtProofs.parseValType_renderValType v h, Bool.false_eq_true, if_false]
  | mul m =>
    simp only [Stmt.wf, Bool.and_eq_true, Bool.not_eq_true', List.isEmpty_eq_false_iff] at h
    obtain ⟨hne, hs, hc⟩ := keyword_line .sgMulVal _ rfl (renderMul m)
      (by unfold renderMul; simp only [List.append_assoc]; exact List.prefix_append _ _) (EndsSemi.append _ EndsSemi.one)
    simp only [Stmt.line, Stmt.item, scanLine, hne, hs, hc, StmtProofs.parseMul_renderMul m h.1 h.2, Bool.false_eq_true, if_false]
  | bu names =>
    simp only [Stmt.wf, List.all_eq_true, Bool.and_eq_true, decide_eq_true_eq] at h
    exact scan_bu names h

theorem stepFile_none (m : RMatrix) (l : Str) (hm : m.pending = none) :
    stepFile m l = match scanLine l with
      | .skip => m
      | .error => m.err
      | .item it => applyItem m it := by
  unfold stepFile; rw [hm]; rfl

theorem step_stmt (m : RMatrix) (s : Stmt) (hm : m.pending = none) (h : s.wf = true) :
    stepFile m s.line = applyStmt m s := by
  rw [stepFile_none m _ hm, scan_stmt s h]
  unfold applyStmt
  cases s.item <;> rfl

theorem step_item (m : RMatrix) (s : Stmt) (it : Item) (hi : s.item = some it) (hm : m.pending = none) (h : s.wf = true) :
    stepFile m s.line = applyItem m it := by
  rw [step_stmt m s hm h, applyStmt, hi]

theorem applyCore_pending (m : RMatrix) (it : Item) (hi : ∀ hd first, it ≠ .cmOpen hd first) :
    (applyCore m it).pending = m.pending := by
  cases it with
  | cmOpen hd first => exact absurd rfl (hi hd first)
  | cm hd text => cases hd <;> simp only [applyCore] <;> (repeat' split) <;> rfl
  | _ =>
    simp only [applyCore, addDefine]
    repeat' split
    all_goals rfl

theorem applyItem_pending (m : RMatrix) (it : Item) (h : m.pending = none) (hi : ∀ hd first, it ≠ .cmOpen hd first) :
    (applyItem m it).pending = none := by
  unfold applyItem
  repeat' split
  all_goals first | exact h | exact (applyCore_pending m it hi).trans h

theorem applyStmt_pending (m : RMatrix) (s : Stmt) (hm : m.pending = none) : (applyStmt m s).pending = none := by
  unfold applyStmt
  cases hi : s.item with
  | none => exact hm
  | some it =>
    refine applyItem_pending m it hm fun hd first e => ?_
    subst e
    cases s <;> simp [Stmt.item] at hi

def addErr (m : RMatrix) (k : Nat) : RMatrix := { m with errors := m.errors + k }

@[simp] theorem addErr_frames (m : RMatrix) (k : Nat) : (addErr m k).frames = m.frames := rfl
@[simp] theorem addErr_ecus (m : RMatrix) (k : Nat) : (addErr m k).ecus = m.ecus := rfl
@[simp] theorem addErr_defs (m : RMatrix) (k : Nat) : (addErr m k).defs = m.defs := rfl
@[simp] theorem addErr_attrs (m : RMatrix) (k : Nat) : (addErr m k).attrs = m.attrs := rfl
@[simp] theorem addErr_tables (m : RMatrix) (k : Nat) : (addErr m k).tables = m.tables := rfl
@[simp] theorem addErr_cur (m : RMatrix) (k : Nat) : (addErr m k).cur = m.cur := rfl
@[simp] theorem addErr_pending (m : RMatrix) (k : Nat) : (addErr m k).pending = m.pending := rfl
@[simp] theorem frameIdx_addErr (m : RMatrix) (k n : Nat) : frameIdx (addErr m k) n = frameIdx m n := rfl
@[simp] theorem ecuIdx_addErr (m : RMatrix) (k : Nat) (n : Str) : ecuIdx (addErr m k) n = ecuIdx m n := rfl
@[simp] theorem numericOk_addErr (m : RMatrix) (k : Nat) (l : Level) (a v : Str) : numericOk (addErr m k) l a v = numericOk m l a v := rfl

theorem addErr_zero (m : RMatrix) : addErr m 0 = m := rfl
theorem addErr_addErr (m : RMatrix) (a b : Nat) : addErr (addErr m a) b = addErr m (a + b) := by
  simp [addErr, Nat.add_assoc]
theorem step_error (m : RMatrix) (b : Str) (hm : m.pending = none) (hb : scanLine b = .error) : stepFile m b = addErr m 1 := by
  rw [stepFile_none m b hm, hb]; rfl

theorem addErr_err (m : RMatrix) (k : Nat) : (addErr m k).err = addErr m.err k := by
  simp only [addErr, RMatrix.err, Nat.add_right_comm]

/-- both sides branch on the same condition (the instances differ: one was found for the matrix with more errors) -/
theorem ite_addErr {c : Prop} [d1 : Decidable c] [d2 : Decidable c] {a b a' b' : RMatrix} {k : Nat}
    (ha : a = addErr a' k) (hb : b = addErr b' k) : @ite _ c d1 a b = addErr (@ite _ c d2 a' b') k := by
  cases Subsingleton.elim d1 d2
  split <;> assumption

theorem applyCore_addErr (m : RMatrix) (k : Nat) (it : Item) : applyCore (addErr m k) it = addErr (applyCore m it) k := by
  -- Every case: unfold the handler and bring its reads back to `m`; split its `if`s (`ite_addErr`) and look-ups on both sides at once;
  -- in each branch that is left unfold `addErr` and `err`.  The kinds differ only in what they read and in whether they have an `if`.
  cases it with
  | ba b =>
    obtain ⟨attr, tgt, v⟩ := b
    cases tgt <;> simp only [applyCore, numericOk_addErr, frameIdx_addErr, ecuIdx_addErr, addErr_frames, addErr_ecus] <;>
      refine ite_addErr ?_ ?_ <;> (repeat' split) <;> simp only [addErr, RMatrix.err, RMatrix.modFrame, Nat.add_right_comm]
  | defdef name value | mulBad id =>
    simp only [applyCore, numericOk_addErr, addErr_defs, frameIdx_addErr]
    refine ite_addErr ?_ ?_ <;> simp only [addErr, RMatrix.err, Nat.add_right_comm]
  | adef d =>
    simp only [applyCore, addDefine, addErr_defs]
    refine ite_addErr ?_ (ite_addErr ?_ ?_) <;> simp only [addErr, RMatrix.err, Nat.add_right_comm]
  | cm hd text | cmOpen hd text =>
    cases hd <;> simp only [applyCore, frameIdx_addErr, ecuIdx_addErr, addErr_frames, addErr_ecus] <;> (repeat' split) <;>
      simp only [addErr, RMatrix.err, RMatrix.modFrame, Nat.add_right_comm]
  | _ =>
    simp only [applyCore, frameIdx_addErr, addErr_frames, addErr_ecus, addErr_defs, addErr_tables, addErr_cur]
    repeat' split
    all_goals simp only [addErr, RMatrix.err, RMatrix.modFrame, Nat.add_right_comm]

theorem applyItem_addErr (m : RMatrix) (k : Nat) (it : Item) : applyItem (addErr m k) it = addErr (applyItem m it) k := by
  unfold applyItem
  cases it.frameNo with
  | none => exact applyCore_addErr m k it
  | some n =>
    -- a number that denotes no identifier: the matrix stays `m` (`VAL_`) or becomes `m.err` (all other kinds)
    exact ite_addErr (by cases it <;> first | rfl | exact addErr_err m k) (applyCore_addErr m k it)

theorem closeComment_addErr (m : RMatrix) (k : Nat) (t : CmTarget) (text : Str) :
    closeComment (addErr m k) t text = addErr (closeComment m t text) k := by
  unfold closeComment
  cases t with
  | sig fi si => cases si <;> rfl
  | frame fi => cases fi <;> rfl
  | ecu ei => rfl

theorem stepFile_addErr (m : RMatrix) (k : Nat) (line : Str) : stepFile (addErr m k) line = addErr (stepFile m line) k := by
  unfold stepFile
  simp only [addErr_pending]
  cases hp : m.pending with
  | some p =>
    obtain ⟨t, acc⟩ := p
    exact ite_addErr (closeComment_addErr m k t _) rfl
  | none =>
    simp only
    cases scanLine line with
    | skip => rfl
    | error => exact addErr_err m k
    | item it => exact applyItem_addErr m k it

theorem foldl_addErr (m : RMatrix) (k : Nat) (ls : List Str) : ls.foldl stepFile (addErr m k) = addErr (ls.foldl stepFile m) k := by
  induction ls generalizing m with
  | nil => rfl
  | cons l ls ih => rw [List.foldl_cons, List.foldl_cons, stepFile_addErr, ih]

theorem read_with_bad (isBad : Str → Bool) (hbad : ∀ b, isBad b = true → scanLine b = .skip ∨ scanLine b = .error)
    (ls : List Str) (ss : List Stmt) (hl : ls.filter (fun l => !isBad l) = writeStmts ss) (h : ∀ s ∈ ss, s.wf = true)
    (m : RMatrix) (hm : m.pending = none) :
    ls.foldl stepFile m = addErr (ss.foldl applyStmt m) (ls.filter fun l => isBad l && scanLine l == .error).length := by
  induction ls generalizing ss m with
  | nil =>
    cases ss with
    | nil => rfl
    | cons s ss' => simp [writeStmts] at hl
  | cons l ls ih =>
    by_cases hb : isBad l = true
    · simp only [List.filter_cons, hb, Bool.not_true, Bool.false_eq_true, if_false] at hl
      rw [List.foldl_cons]
      rcases hbad l hb with hs | he
      · rw [stepFile_none m l hm, hs, ih ss hl h m hm]
        simp [hb, hs]
      · rw [step_error m l hm he, foldl_addErr, ih ss hl h m hm, addErr_addErr]
        simp [hb, he]
    · have hb' : isBad l = false := by simpa using hb
      simp only [List.filter_cons, hb', Bool.not_false, if_true] at hl
      obtain ⟨s, ss', rfl, rfl, hrest⟩ := List.map_eq_cons_iff.mp hl.symm
      rw [List.foldl_cons, List.foldl_cons, step_stmt m s hm (h s (by simp))]
      rw [ih ss' hrest.symm (fun x hx => h x (List.mem_cons_of_mem _ hx)) _ (applyStmt_pending m s hm)]
      simp [hb']

theorem read_with_skipped (isBad : Str → Bool) (hbad : ∀ b, isBad b = true → scanLine b = .skip)
    (ls : List Str) (ss : List Stmt) (hl : ls.filter (fun l => !isBad l) = writeStmts ss) (h : ∀ s ∈ ss, s.wf = true)
    (m : RMatrix) (hm : m.pending = none) :
    ls.foldl stepFile m = ss.foldl applyStmt m := by
  rw [read_with_bad isBad (fun b hb => Or.inl (hbad b hb)) ls ss hl h m hm]
  have : (ls.filter fun l => isBad l && scanLine l == .error) = [] :=
    List.filter_eq_nil_iff.mpr fun l _ hl => by
      rw [Bool.and_eq_true] at hl
      rw [hbad l hl.1] at hl
      exact absurd hl.2 (by decide)
  rw [this]
  exact addErr_zero _

theorem read_statements (ss : List Stmt) (h : ∀ s ∈ ss, s.wf = true) (m : RMatrix) (hm : m.pending = none) :
    (writeStmts ss).foldl stepFile m = ss.foldl applyStmt m :=
  read_with_skipped (fun _ => false) (fun _ hb => nomatch hb) _ ss (List.filter_eq_self.mpr fun _ _ => rfl) h m hm

theorem read_prefix (pre post : List Stmt) :
    readFile (writeStmts (pre ++ post)) = (writeStmts post).foldl stepFile (readFile (writeStmts pre)) := by
  unfold readFile writeStmts
  rw [List.map_append, List.foldl_append]

theorem pending_lines (m : RMatrix) (tgt : CmTarget) (mid : List Str) (last acc : Str)
    (hmid : ∀ l ∈ mid, endsStatement (escapeQuotes l) = false) (hlast : last.getLast? ≠ some '\\') :
    (mid.map escapeQuotes ++ [escapeQuotes last ++ ['"', ';']]).foldl stepFile { m with pending := some (tgt, acc) } =
      closeComment m tgt (acc ++ '\n' :: joinLines (mid ++ [last])) := by
  induction mid generalizing acc with
  | nil =>
    simp only [List.map_nil, List.nil_append, List.foldl_cons, List.foldl_nil, joinLines]
    unfold stepFile
    simp only [endsStatement_close, if_true]
    rw [unescape_escape_close _ hlast]
    have e : acc ++ '\n' :: (last ++ ['"', ';']) = (acc ++ '\n' :: last) ++ ['"', ';'] := by simp
    rw [e, dropClosing_close]
    rfl
  | cons l mid ih =>
    simp only [List.map_cons, List.cons_append, List.foldl_cons]
    have hstep : stepFile { m with pending := some (tgt, acc) } (escapeQuotes l) =
        { m with pending := some (tgt, acc ++ '\n' :: l) } := by
      unfold stepFile
      simp only [hmid l (by simp), ValProofs.unescape_escape, Bool.false_eq_true, if_false]
    rw [hstep, ih _ (fun x hx => hmid x (List.mem_cons_of_mem _ hx)), joinLines_cons l _ (by simp)]
    simp

theorem tokenSp_tok (tok r : Str) (hne : tok ≠ []) (h : ∀ c ∈ tok, isBlank c = false) :
    tokenSp (tok ++ ' ' :: r) = some (tok, skipSp r) := by
  unfold tokenSp
  rw [span_tok tok r h]
  cases tok with
  | nil => exact absurd rfl hne
  | cons c t => rfl

def kindOfHead : CmHead → LineKind
  | .sg _ _ => .cmSg
  | .bo _ => .cmBo
  | .bu _ => .cmBu

/-- behind `CM_ +XX_ +` for a class keyword `XX_` -/
theorem afterClass (x y z : Char) (hx : x ≠ ' ') (r : Str) :
    skipSp ((skipSp (('C' :: 'M' :: '_' :: ' ' :: x :: y :: z :: ' ' :: r).drop 3)).drop 3) = skipSp r := by
  simp only [List.drop_succ_cons, List.drop_zero]
  rw [skipSp_space, skipSp_of_ne x _ hx]
  simp only [List.drop_succ_cons, List.drop_zero]
  rw [skipSp_space]

theorem parseCmHead_render (h : CmHead) (body : Str) (hw : wfCmHead h = true) :
    parseCmHead (kindOfHead h) (renderCmHead h ++ body) = some (some h, body) := by
  unfold parseCmHead renderCmHead kindOfHead
  have hid (id : Nat) (r : Str) : tokenSp (skipSp (natDigits id ++ ' ' :: r)) = some (natDigits id, skipSp r) := by
    rw [skipSp_natDigits, tokenSp_tok _ _ (natDigits_ne_nil id) (digits_not_blank (natDigits_allDig id))]
  have hname (name r : Str) (hn : isIdent name = true) : tokenSp (skipSp (name ++ ' ' :: r)) = some (name, skipSp r) := by
    rw [skipSp_ident _ _ hn, tokenSp_tok _ _ (isIdent_ne_nil hn) (ident_not_blank hn)]
  cases h with
  | bo id =>
    lit_chars
    simp only [List.cons_append, List.nil_append, List.append_assoc]
    rw [afterClass _ _ _ (by decide), hid, skipSp_space, skipSp_of_ne '"' _ (by decide)]
    simp only [digitsToNat_natDigits', Option.map_some]
  | sg id name =>
    lit_chars
    simp only [List.cons_append, List.nil_append, List.append_assoc]
    rw [afterClass _ _ _ (by decide), hid]
    simp only
    rw [hname _ _ hw, skipSp_of_ne '"' _ (by decide)]
    simp only [digitsToNat_natDigits', Option.map_some]
  | bu name =>
    lit_chars
    simp only [List.cons_append, List.nil_append, List.append_assoc]
    rw [afterClass _ _ _ (by decide), hname _ _ hw, skipSp_of_ne '"' _ (by decide)]
    rfl

theorem renderCmHead_shape (h : CmHead) :
    ∃ kw r, keywordOf (kindOfHead h) = some kw ∧ renderCmHead h = kw.toList ++ (r ++ ['"']) := by
  cases h with
  | sg id name => exact ⟨_, natDigits id ++ ' ' :: name ++ [' '], rfl, by unfold renderCmHead; lit_chars; simp⟩
  | bo id => exact ⟨_, natDigits id ++ [' ', ' '], rfl, by unfold renderCmHead; lit_chars; simp⟩
  | bu name => exact ⟨_, name ++ [' '], rfl, by unfold renderCmHead; lit_chars; simp⟩

theorem stripWs_head (h : CmHead) (b : Str) : stripWs (renderCmHead h ++ b) = renderCmHead h ++ rstripWs b := by
  obtain ⟨kw, r, hk, hr⟩ := renderCmHead_shape h
  obtain ⟨c, t, hc, hw⟩ := keyword_head hk
  rw [hr, hc]
  exact stripWs_head_body _ b c '"' rfl (by rw [← List.append_assoc, List.getLast?_append]; rfl) hw (by decide)

theorem lstripWs_head (h : CmHead) (b : Str) : lstripWs (renderCmHead h ++ b) = renderCmHead h ++ b := by
  obtain ⟨kw, r, hk, hr⟩ := renderCmHead_shape h
  obtain ⟨c, t, hc, hw⟩ := keyword_head hk
  rw [hr, hc]
  simp [lstripWs, hw]

theorem head_isEmpty (h : CmHead) (b : Str) : (renderCmHead h ++ b).isEmpty = false := by
  obtain ⟨kw, r, hk, hr⟩ := renderCmHead_shape h
  obtain ⟨c, t, hc, _⟩ := keyword_head hk
  rw [hr, hc]
  rfl

theorem classify_head (h : CmHead) (l b : Str) (hs : stripWs l = renderCmHead h ++ b) : classify l = kindOfHead h := by
  obtain ⟨kw, r, hk, hr⟩ := renderCmHead_shape h
  exact classify_keyword _ kw hk l (r ++ ['"'] ++ b) (by rw [hs, hr, List.append_assoc])

theorem scan_cm_one (h : CmHead) (t : Str) (hw : wfCmHead h = true) :
    scanLine (renderCmHead h ++ (escapeQuotes t ++ ['"', ';'])) = .item (.cm h t) := by
  have hs := stripWs_head h (escapeQuotes t ++ ['"', ';'])
  have hc := classify_head h _ _ hs
  have hp := parseCmHead_render h (rstripWs (escapeQuotes t ++ ['"', ';'])) hw
  cases h <;> rw [kindOfHead] at hc hp <;>
    simp only [scanLine, hs, head_isEmpty, hc, hp, close_on_line, ValProofs.unescape_escape, Bool.false_eq_true, if_false]

theorem scan_cm_open (h : CmHead) (l0 : Str) (hw : wfCmHead h = true) (h0 : quoteThenSemi l0 = false) :
    scanLine (renderCmHead h ++ escapeQuotes l0) = .item (.cmOpen h l0) := by
  have hs := stripWs_head h (escapeQuotes l0)
  have hc := classify_head h _ _ hs
  have hp := parseCmHead_render h (rstripWs (escapeQuotes l0)) hw
  have hp' := parseCmHead_render h (escapeQuotes l0) hw
  cases h <;> rw [kindOfHead] at hc hp hp' <;>
    simp only [scanLine, hs, head_isEmpty, lstripWs_head, hc, hp, hp', first_line_open l0 h0, ValProofs.unescape_escape, Bool.false_eq_true,
      if_false]

theorem pending_none_eq (m : RMatrix) (hm : m.pending = none) : { m with pending := none } = m := by
  cases m; simp_all

theorem key_of_frameIdx (m : RMatrix) (n i : Nat) (h : frameIdx m n = some i) : (keyOfCompound n).isNone = false := by
  unfold frameIdx at h
  cases hk : keyOfCompound n with
  | none => rw [hk] at h; cases h
  | some k => rfl

/-- opening a comment over several lines and closing it with the complete text is giving the comment on one line -/
theorem open_close (m : RMatrix) (h : CmHead) (l0 text : Str) (hm : m.pending = none)
    (hok : (FileStmt.cm h text).okIn m = true) (hnl : text.contains '\n' = true) :
    ∃ m' tgt, applyItem m (.cmOpen h l0) = { m' with pending := some (tgt, l0) } ∧
      closeComment m' tgt text = applyItem m (.cm h text) := by
  -- for a text over several lines `okIn` says that the object the head names is known
  simp only [FileStmt.okIn, hnl, Bool.not_true, Bool.false_or, Bool.and_eq_true] at hok
  obtain ⟨_, hok⟩ := hok
  cases h with
  | sg id name =>
    obtain ⟨fi, hfi⟩ := Option.isSome_iff_exists.mp hok
    have hkn := key_of_frameIdx m id fi hfi
    refine ⟨{ m with cur := some fi }, .sig fi ((m.frames[fi]?).bind (sigIdx · name)), ?_, ?_⟩
    · simp only [applyItem, Item.frameNo, hkn, Bool.false_eq_true, if_false, applyCore, hfi]
    · simp only [applyItem, Item.frameNo, hkn, Bool.false_eq_true, if_false, applyCore, hfi, closeComment]
      cases (m.frames[fi]?).bind (sigIdx · name) <;> simp only [hm]
  | bo id =>
    have hknown : (keyOfCompound id).isSome = true := hok
    have hkn : (keyOfCompound id).isNone = false := by cases hkk : keyOfCompound id <;> simp [hkk] at hknown ⊢
    refine ⟨{ m with cur := frameIdx m id }, .frame (frameIdx m id), ?_, ?_⟩
    · simp only [applyItem, Item.frameNo, hkn, Bool.false_eq_true, if_false, applyCore]
    · simp only [applyItem, Item.frameNo, hkn, Bool.false_eq_true, if_false, applyCore, closeComment]
      cases frameIdx m id <;> simp only [hm]
  | bu name =>
    obtain ⟨ei, hei⟩ := Option.isSome_iff_exists.mp hok
    refine ⟨m, .ecu ei, ?_, ?_⟩
    · simp only [applyItem, Item.frameNo, applyCore, hei]
    · simp only [applyItem, Item.frameNo, applyCore, hei, closeComment]
      simp only [hm]

theorem fold_cm (m : RMatrix) (h : CmHead) (text : Str) (hm : m.pending = none)
    (hok : (FileStmt.cm h text).okIn m = true) :
    (cmLines h text).foldl stepFile m = applyItem m (.cm h text) := by
  have hok' := hok
  simp only [FileStmt.okIn, Bool.and_eq_true] at hok'
  obtain ⟨⟨hw, hwf⟩, _⟩ := hok'
  rcases wfComment_lines text hwf with hr | ⟨l0, mid, last, hjoin, hr, h0, hmid, hlast⟩
  · unfold cmLines
    rw [hr]
    simp only [List.foldl_cons, List.foldl_nil]
    rw [stepFile_none _ _ hm, scan_cm_one h text hw]
  · have htext : text = l0 ++ '\n' :: joinLines (mid ++ [last]) := by rw [← hjoin, joinLines_cons l0 _ (by simp)]
    unfold cmLines
    rw [hr]
    simp only [List.foldl_cons]
    rw [stepFile_none _ _ hm, scan_cm_open h l0 hw h0]
    simp only
    obtain ⟨m', tgt, hopen, hclose⟩ := open_close m h l0 text hm hok (by simp [htext])
    rw [hopen, pending_lines m' tgt mid last l0 hmid hlast, ← htext]
    exact hclose

theorem apply_pending (m : RMatrix) (f : FileStmt) (hm : m.pending = none) : (f.apply m).pending = none := by
  cases f with
  | one s => exact applyStmt_pending m s hm
  | cm h text => exact applyItem_pending m (.cm h text) hm (by intro hd first e; cases e)

theorem fold_stmt (m : RMatrix) (f : FileStmt) (hm : m.pending = none) (hok : f.okIn m = true) :
    f.lines.foldl stepFile m = f.apply m := by
  cases f with
  | one s =>
    simp only [FileStmt.lines, List.foldl_cons, List.foldl_nil, FileStmt.apply]
    exact step_stmt m s hm hok
  | cm h text => exact fold_cm m h text hm hok

theorem read_file (fs : List FileStmt) (m : RMatrix) (hm : m.pending = none) (hok : okFile m fs = true) :
    (writeFile fs).foldl stepFile m = fs.foldl FileStmt.apply m := by
  induction fs generalizing m with
  | nil => rfl
  | cons f fs ih =>
    simp only [okFile, Bool.and_eq_true] at hok
    simp only [writeFile, List.flatMap_cons, List.foldl_append, List.foldl_cons]
    rw [fold_stmt m f hm hok.1]
    exact ih _ (apply_pending m f hm) hok.2

end CanVerif.Dbc.FileProofs
