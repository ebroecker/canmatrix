import CanVerif.Model.Codec
/-! The model's dictionaries are association lists in insertion order: what `dictSet`, `dictGet` and
`pickAll` do to them when the keys are the pairwise different names of a frame's signals. -/
namespace CanVerif

theorem mem_dictSet {d : List (String × Int)} {k : String} {v : Int} {kv : String × Int}
    (h : kv ∈ dictSet d k v) : kv ∈ d ∨ kv = (k, v) := by
  unfold dictSet at h
  split at h
  · obtain ⟨x, hx, rfl⟩ := List.mem_map.mp h
    split
    · exact .inr rfl
    · exact .inl hx
  · exact (List.mem_append.mp h).imp_right List.mem_singleton.mp

theorem key_dictSet {d : List (String × Int)} (k : String) (v : Int) {k' : String}
    (h : (∃ kv ∈ d, kv.1 = k') ∨ k' = k) : ∃ kv ∈ dictSet d k v, kv.1 = k' := by
  unfold dictSet
  split
  · rename_i hany
    obtain ⟨x, hx, hxk⟩ : ∃ x ∈ d, x.1 = k' := h.elim id fun e => by
      simpa only [e, List.any_eq_true, beq_iff_eq] using hany
    refine ⟨_, List.mem_map_of_mem (f := fun kv => if kv.1 == k then (k, v) else kv) hx, ?_⟩
    by_cases hk : x.1 = k <;> simp [hk, ← hxk]
  · rcases h with ⟨x, hx, hxk⟩ | rfl
    · exact ⟨x, List.mem_append_left _ hx, hxk⟩
    · exact ⟨(k', v), by simp, rfl⟩

theorem dictGet_isSome_iff (d : List (String × Int)) (k : String) :
    (dictGet d k).isSome ↔ ∃ kv ∈ d, kv.1 = k := by
  simp [dictGet]

theorem dictGet_some_mem {d : List (String × Int)} {k : String} {v : Int}
    (h : dictGet d k = some v) : (k, v) ∈ d := by
  unfold dictGet at h
  obtain ⟨⟨k', v'⟩, ha, rfl⟩ := Option.map_eq_some_iff.mp h
  obtain rfl : k' = k := by simpa using List.find?_some ha
  exact List.mem_of_find?_eq_some ha

theorem pickAll_eq_fold (D : List (String × Int)) (g : Sig → Int) (l : List Sig)
    (init : List (String × Int)) (h : ∀ s ∈ l, dictGet D s.name = some (g s)) :
    pickAll D l init = .ok (l.foldl (fun a s => dictSet a s.name (g s)) init) := by
  unfold pickAll
  induction l generalizing init with
  | nil => rfl
  | cons x t ih =>
    simp only [List.foldlM_cons, List.foldl_cons]
    rw [h x (by simp)]
    exact ih _ (fun s hs => h s (by simp [hs]))

theorem fold_dictSet_mem (g : Sig → Int) (l : List Sig) (init : List (String × Int))
    {kv : String × Int} (h : kv ∈ l.foldl (fun a s => dictSet a s.name (g s)) init) :
    kv ∈ init ∨ ∃ s ∈ l, kv = (s.name, g s) := by
  revert h
  refine List.foldlRecOn (motive := fun r => kv ∈ r → kv ∈ init ∨ ∃ s ∈ l, kv = (s.name, g s)) _ _ .inl ?_
  exact fun r ih x hx h => (mem_dictSet h).elim ih fun e => .inr ⟨x, hx, e⟩

theorem fold_dictSet_key (g : Sig → Int) (l : List Sig) (init : List (String × Int)) {k : String}
    (h : (∃ kv ∈ init, kv.1 = k) ∨ ∃ s ∈ l, s.name = k) :
    ∃ kv ∈ l.foldl (fun a s => dictSet a s.name (g s)) init, kv.1 = k := by
  induction l generalizing init with
  | nil => exact h.elim id fun ⟨_, hs, _⟩ => nomatch hs
  | cons x t ih =>
    refine ih _ ?_
    rcases h with h | ⟨s, hs, rfl⟩
    · exact .inl (key_dictSet _ _ (.inl h))
    · rcases List.mem_cons.1 hs with rfl | hs
      · exact .inl (key_dictSet _ _ (.inr rfl))
      · exact .inr ⟨s, hs, rfl⟩

theorem pairwise_of_ne {R : α → α → Prop} (hsym : ∀ a b, R a b → R b a) {l : List α} (hp : l.Pairwise R)
    {a b : α} (ha : a ∈ l) (hb : b ∈ l) (hne : a ≠ b) : R a b :=
  List.Pairwise.forall_of_forall_of_flip (R := fun a b => a ≠ b → R a b) (fun _ _ h => absurd rfl h)
    (hp.imp fun {a b} r (_ : a ≠ b) => r) (hp.imp fun {a b} r (_ : b ≠ a) => hsym a b r) ha hb hne

theorem name_inj {sigs : List Sig} (hnd : (sigs.map (·.name)).Nodup) {a b : Sig}
    (ha : a ∈ sigs) (hb : b ∈ sigs) (h : a.name = b.name) : a = b := by
  have hp : sigs.Pairwise (fun a b => a.name ≠ b.name) := List.pairwise_map.1 hnd
  exact Decidable.byContradiction fun hne => pairwise_of_ne (fun _ _ => Ne.symm) hp ha hb hne h

theorem dictGet_map_nodup (sigs : List Sig) (g : Sig → Int) (hnd : (sigs.map (·.name)).Nodup)
    {s : Sig} (hs : s ∈ sigs) : dictGet (sigs.map fun s => (s.name, g s)) s.name = some (g s) := by
  induction sigs with
  | nil => simp at hs
  | cons x t ih =>
    rw [List.map_cons, List.nodup_cons] at hnd
    simp only [dictGet, List.map_cons, List.find?_cons]
    rcases List.mem_cons.1 hs with rfl | hs'
    · simp
    · rw [beq_false_of_ne fun (e : x.name = s.name) => hnd.1 (e ▸ List.mem_map_of_mem hs')]
      exact ih hnd.2 hs'

theorem foldl_dictSet_nodup (sigs : List Sig) (g : Sig → Int) (acc : List (String × Int))
    (hnd : (sigs.map (·.name)).Nodup) (hdis : ∀ s ∈ sigs, ∀ kv ∈ acc, kv.1 ≠ s.name) :
    sigs.foldl (fun a s => dictSet a s.name (g s)) acc = acc ++ sigs.map (fun s => (s.name, g s)) := by
  induction sigs generalizing acc with
  | nil => simp
  | cons s t ih =>
    have hnot : acc.any (fun kv => kv.1 == s.name) = false :=
      List.any_eq_false.mpr fun kv hkv => by simpa using hdis s List.mem_cons_self kv hkv
    rw [List.map_cons, List.nodup_cons] at hnd
    rw [List.foldl_cons, dictSet, hnot, if_neg Bool.false_ne_true, ih _ hnd.2]
    · simp
    · refine fun s' hs' => List.forall_mem_append.mpr ⟨hdis s' (List.mem_cons_of_mem _ hs'), ?_⟩
      exact List.forall_mem_singleton.mpr fun (heq : s.name = s'.name) => hnd.1 (heq ▸ List.mem_map_of_mem hs')

end CanVerif
