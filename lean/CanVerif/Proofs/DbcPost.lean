import CanVerif.Model.DbcPost
import CanVerif.Proofs.StrLit
/-!
For the post-processing of the DBC reader (Model/DbcPost.lean; Props/C05i, C05p, C05r): the frames and the ECU names of the result, and the example of Props/C05i read and post-processed once.
-/
namespace CanVerif.Dbc

theorem splitDummy_of_no_dummy (fs : List PFrame) (h : ∀ f ∈ fs, isDummyFrame f = false) : splitDummy fs = (fs, []) := by
  have : fs.find? isDummyFrame = none := List.find?_eq_none.mpr fun f hf => by simp [h f hf]
  unfold splitDummy
  rw [this]

/-- without the pseudo frame of the signals without frame, the frames of the result are the frames of the line loop, renamed, in their
order -/
theorem postProcess_frames (m : RMatrix)
    (hnd : ∀ f ∈ m.frames, (longName "SystemMessageLongSymbol" f.name f.attrs).1 ≠ "VECTOR__INDEPENDENT_SIG_MSG".toList) :
    (postProcess m).frames = (postFrames3 m).map fun f =>
      { f with attrs := keptAttrs m.defs .frame f.attrs,
               sigs := f.sigs.map fun s => { s with attrs := keptAttrs m.defs .signal s.attrs } } := by
  have hsplit : splitDummy (postFrames3 m) = (postFrames3 m, []) := by
    apply splitDummy_of_no_dummy
    intro f hf
    simp only [postFrames3, postFrames2, postFrames1, List.mem_map] at hf
    obtain ⟨f2, ⟨f1, ⟨f0, hf0, rfl⟩, rfl⟩, rfl⟩ := hf
    simpa [isDummyFrame] using hnd f0 hf0
  unfold postProcess
  simp only [hsplit]

/-- `update_ecu_list`: every sender and receiver, frame by frame, is added to the listed ECUs (under their restored names) -/
theorem postNames1_eq (m : RMatrix) :
    postNames1 m = ((postFrames2 m).flatMap fun f => f.tx ++ f.sigs.flatMap PSig.receivers).foldl addEcu
      (m.ecus.map fun e => (longName "SystemNodeLongSymbol" e.name e.attrs).1) := by
  unfold postNames1
  rw [List.foldl_flatMap]
  simp only [List.foldl_append, postEcus1, List.map_map]
  rfl

end CanVerif.Dbc

namespace CanVerif.C05i
open CanVerif CanVerif.Dbc

def exPost : PMatrix := postProcess (readFile
  (["BU_: ECU_A", "BO_ 291 ShortName: 8 ECU_A", " SG_ s1 : 0|8@1+ (1,0) [0|0] \"\" Vector__XXX", " SG_ s2 : 8|8@1+ (1,0) [0|0] \"\" ECU_B,ECU_C", "",
    "BO_ 3221225472 VECTOR__INDEPENDENT_SIG_MSG: 0 Vector__XXX", " SG_ lonely : 0|8@1+ (1,0) [0|0] \"\" Vector__XXX", "",
    "BA_DEF_ BO_ \"SystemMessageLongSymbol\" STRING ;", "BA_DEF_ BO_ \"Note\" STRING ;",
    "BA_ \"SystemMessageLongSymbol\" BO_ 291 \"A_frame_name_that_is_longer_than_32_characters\";",
    "BA_ \"Note\" BO_ 291 \"two words\";"].map String.toList))

/-- the example of Props/C05i, read and post-processed once -/
theorem exPost_eq : exPost =
    { ecus := ["ECU_A".toList, "ECU_B".toList, "ECU_C".toList],
      frames := [{ key := (291, false), name := "A_frame_name_that_is_longer_than_32_characters".toList, tx := ["ECU_A".toList],
                   rx := ["ECU_B".toList, "ECU_C".toList], attrs := [("Note".toList, "two words".toList)], comment := none,
                   sigs := [{ name := "s1".toList, receivers := [], attrs := [], comment := none },
                            { name := "s2".toList, receivers := ["ECU_B".toList, "ECU_C".toList], attrs := [], comment := none }] }],
      free := [{ name := "lonely".toList, receivers := [], attrs := [], comment := none }],
      attrs := [] } := by
  unfold exPost; lit_chars; decide +kernel

end CanVerif.C05i
