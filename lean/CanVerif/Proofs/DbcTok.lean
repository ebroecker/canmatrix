import CanVerif.Model.DbcText
import CanVerif.Proofs.Num
import CanVerif.Proofs.StrLit
/-!
What each piece of the statement tokenizers of Model/DbcText.lean does on an input of the form `token ++ rest`:
character classes, rendered numbers as number tokens, blanks, `natThen` / `numThen`, the receiver list, `stripWs`.
The statement proofs (Proofs/DbcLex, DbcStmt, DbcAttr, DbcTables) unfold a reader, a nested `match`, once and give
`simp only` these lemmas: each rewrites the scrutinee of a `match` to `(value, rest)`, and `simp` takes the branch.
-/
namespace CanVerif.Dbc
open CanVerif CanVerif.Num

/- the keyword literals inside an unfolded reader, as `simp only` / `rw` lemmas (`lit_chars` works on a whole goal) -/
theorem lit_bo : "BO_ ".toList = ['B', 'O', '_', ' '] := String.toList_ofList
theorem lit_sg : "SG_ ".toList = ['S', 'G', '_', ' '] := String.toList_ofList

theorem isDigit_iff (c : Char) : isDigit c = true ↔ IsDig c := by
  rw [isDig_iff]; simp [isDigit]

theorem isDigit_of_isDig {c : Char} (h : IsDig c) : isDigit c = true := (isDigit_iff c).mpr h

theorem isNumChar_of_isDig {c : Char} (h : IsDig c) : isNumChar c = true := by
  simp [isNumChar, isDigit_of_isDig h]

theorem isDig_identChar {c : Char} (h : IsDig c) : isIdentChar c = true := by
  simp [isIdentChar, isDigit_of_isDig h]

theorem isBlank_cases {c : Char} (h : isBlank c = true) :
    c = ' ' ∨ c = '\t' ∨ c = '\n' ∨ c = '\r' ∨ c = '\x0b' ∨ c = '\x0c' := by
  simp [isBlank, isWs] at h
  simpa only [or_assoc] using h

theorem not_ws_of_not_blank {c : Char} (h : isBlank c = false) : isWs c = false :=
  Bool.eq_false_iff.mpr fun hw => Bool.eq_false_iff.mp h (by simp [isBlank, hw])

theorem identChar_not_blank {c : Char} (h : isIdentChar c = true) : isBlank c = false := by
  refine Bool.eq_false_iff.mpr fun hb => ?_
  rcases isBlank_cases hb with rfl | rfl | rfl | rfl | rfl | rfl <;> revert h <;> decide

theorem not_blank_ne_space {c : Char} (h : isBlank c = false) : c ≠ ' ' := by
  rintro rfl; cases h

theorem identChar_not_ws {c : Char} (h : isIdentChar c = true) : isWs c = false :=
  not_ws_of_not_blank (identChar_not_blank h)

theorem isDig_not_ws {c : Char} (h : IsDig c) : isWs c = false := identChar_not_ws (isDig_identChar h)

theorem identChar_ne {c d : Char} (h : isIdentChar c = true) (hd : isIdentChar d = false) : c ≠ d := by
  rintro rfl; rw [h] at hd; cases hd

theorem identChar_ne_space {c : Char} (h : isIdentChar c = true) : c ≠ ' ' := identChar_ne h rfl
theorem identChar_ne_comma {c : Char} (h : isIdentChar c = true) : c ≠ ',' := identChar_ne h rfl

/-- the characters of a name or tag token of an `SG_` line -/
theorem tokChar_of_identChar {c : Char} (h : isIdentChar c = true) : (!isBlank c && c != ':') = true := by
  simp [identChar_not_blank h, identChar_ne h (d := ':') rfl]

theorem isIdent_ne_nil {s : Str} (h : isIdent s = true) : s ≠ [] := by
  rintro rfl; revert h; decide

theorem isIdent_all {s : Str} (h : isIdent s = true) : ∀ c ∈ s, isIdentChar c = true := by
  simp [isIdent] at h
  exact h.2

theorem ident_not_blank {s : Str} (h : isIdent s = true) : ∀ c ∈ s, isBlank c = false :=
  fun c hc => identChar_not_blank (isIdent_all h c hc)

theorem isIdent_head {s : Str} (h : isIdent s = true) : ∃ x t, s = x :: t ∧ isIdentChar x = true := by
  obtain ⟨x, t, rfl⟩ := List.exists_cons_of_ne_nil (isIdent_ne_nil h)
  exact ⟨x, t, rfl, isIdent_all h x List.mem_cons_self⟩

theorem reread_spec (d : Dec) : strToDec (formatFloat d) = some (reread d) := by
  unfold reread
  rcases strToDec_formatFloat' d with h | ⟨_, _, h⟩ <;> rw [h] <;> rfl

theorem reread_cases' (d : Dec) :
    reread d = d ∨ (d.exp = -1 ∧ d.coeff % 10 = 0 ∧ reread d = ⟨d.neg, d.coeff / 10, 0⟩) := by
  unfold reread
  rcases strToDec_formatFloat' d with h | ⟨h1, h2, h⟩
  · left; rw [h]; rfl
  · right; refine ⟨h1, h2, ?_⟩; rw [h]; rfl

theorem numChar_ne_space {c : Char} (h : isNumChar c = true) : c ≠ ' ' := by
  rintro rfl; revert h; decide

/-- `t` is a number token of the statement patterns (`[0-9.+\-eE]+`) that `Decimal` reads as `d` -/
def NumTok (t : Str) (d : Dec) : Prop := t ≠ [] ∧ (∀ c ∈ t, isNumChar c = true) ∧ strToDec t = some d

theorem validNum_iff {t : Str} : validNum t = true ↔ ∃ d, NumTok t d := by
  simp only [validNum, NumTok, Bool.and_eq_true, Bool.not_eq_true', List.all_eq_true, List.isEmpty_eq_false_iff,
    Option.isSome_iff_exists, exists_and_left, and_assoc]

theorem NumTok.formatFloat (d : Dec) : NumTok (formatFloat d) (reread d) := by
  obtain ⟨hne, hch⟩ := formatFloat_chars d
  refine ⟨hne, fun c hc => ?_, reread_spec d⟩
  rcases hch c hc with h | rfl | rfl | rfl | rfl
  · exact isNumChar_of_isDig h
  all_goals decide

theorem skipSp_space (r : Str) : skipSp (' ' :: r) = skipSp r := by
  simp [skipSp]

theorem skipSp_of_ne (c : Char) (r : Str) (h : c ≠ ' ') : skipSp (c :: r) = c :: r := by
  simp [skipSp, h]

theorem skipSp_of_head (s : Str) (c : Char) (h : s.head? = some c) (hc : c ≠ ' ') : skipSp s = s := by
  cases s with
  | nil => rfl
  | cons x t => simp at h; subst h; exact skipSp_of_ne x t hc

theorem skipSp_append_of (a r : Str) (c : Char) (h : (a ++ r).head? = some c) (hc : c ≠ ' ') :
    skipSp (a ++ r) = a ++ r :=
  skipSp_of_head _ c h hc

theorem sps_succ (n : Nat) : sps (n + 1) = ' ' :: sps n := rfl

theorem sps_pos {n : Nat} (h : 1 ≤ n) (r : Str) : sps n ++ r = ' ' :: (sps (n - 1) ++ r) := by
  obtain ⟨k, rfl⟩ := Nat.exists_eq_add_one_of_ne_zero (Nat.ne_of_gt h)
  rfl

theorem skipSp_sps (n : Nat) (r : Str) : skipSp (sps n ++ r) = skipSp r := by
  induction n with
  | zero => rfl
  | succ n ih => rw [sps_succ, List.cons_append, skipSp_space]; exact ih

theorem skipSp_sps_cons (n : Nat) (c : Char) (r : Str) (h : c ≠ ' ') : skipSp (sps n ++ c :: r) = c :: r := by
  rw [skipSp_sps, skipSp_of_ne c r h]

/-- a token that blanks delimit -/
def Word (w : Str) : Prop := w ≠ [] ∧ ∀ c ∈ w, c ≠ ' '

theorem Word.skipSp {w : Str} (h : Word w) (k : Nat) (r : Str) : skipSp (sps k ++ (w ++ r)) = w ++ r := by
  obtain ⟨x, t, rfl⟩ := List.exists_cons_of_ne_nil h.1
  exact skipSp_sps_cons k x _ (h.2 x (by simp))

theorem Word.span {w : Str} (h : Word w) (r : Str) : (w ++ ' ' :: r).span (· != ' ') = (w, ' ' :: r) :=
  span_ne ' ' w r h.2

theorem word_natDigits (n : Nat) : Word (natDigits n) :=
  ⟨natDigits_ne_nil n, fun c hc => (natDigits_allDig n c hc).ne rfl⟩

theorem word_ident {s : Str} (h : isIdent s = true) : Word s :=
  ⟨isIdent_ne_nil h, fun c hc => identChar_ne_space (isIdent_all h c hc)⟩

theorem NumTok.word {t : Str} {d : Dec} (h : NumTok t d) : Word t :=
  ⟨h.1, fun c hc => numChar_ne_space (h.2.1 c hc)⟩

theorem skipSp_natDigits (n : Nat) (r : Str) : skipSp (natDigits n ++ r) = natDigits n ++ r :=
  (word_natDigits n).skipSp 0 r

theorem skipSp_ident (a r : Str) (h : isIdent a = true) : skipSp (a ++ r) = a ++ r :=
  (word_ident h).skipSp 0 r

/-- blanks followed by a colon start with a character that ends a name -/
theorem sps_colon_stop (p : Char → Bool) (hs : p ' ' = false) (hc : p ':' = false) (n : Nat) (r : Str) :
    sps n ++ ':' :: r = [] ∨ ∃ c t, sps n ++ ':' :: r = c :: t ∧ p c = false := by
  cases n with
  | zero => exact Or.inr ⟨':', r, rfl, hc⟩
  | succ n => exact Or.inr ⟨' ', sps n ++ ':' :: r, rfl, hs⟩

theorem natThen_of_span (stop : Char) (s ds r : Str) (hne : ds ≠ []) (h : s.span isDigit = (ds, stop :: r)) :
    natThen stop s = (digitsToNat ds).map (·, r) := by
  unfold natThen
  rw [h]
  cases ds with
  | nil => exact absurd rfl hne
  | cons a t => simp

theorem natThen_natDigits (stop : Char) (n : Nat) (r : Str) (hs : isDigit stop = false) :
    natThen stop (natDigits n ++ stop :: r) = some (n, r) := by
  rw [natThen_of_span stop _ (natDigits n) r (natDigits_ne_nil n), digitsToNat_natDigits']
  · rfl
  · exact span_append_of isDigit _ _ (fun c hc => isDigit_of_isDig (natDigits_allDig n c hc))
      (Or.inr ⟨_, _, rfl, hs⟩)

theorem numThen_of_span (stop : Char) (s ds r : Str) (hne : ds ≠ []) (h : s.span isNumChar = (ds, stop :: r)) :
    numThen stop s = (strToDec ds).map (·, r) := by
  unfold numThen
  rw [h]
  cases ds with
  | nil => exact absurd rfl hne
  | cons a t => simp

theorem numThen_tok {t : Str} {d : Dec} (h : NumTok t d) (stop : Char) (hs : isNumChar stop = false) (r : Str) :
    numThen stop (t ++ stop :: r) = some (d, r) := by
  rw [numThen_of_span stop _ t r h.1, h.2.2]
  · rfl
  · exact span_append_of isNumChar _ _ h.2.1 (Or.inr ⟨_, _, rfl, hs⟩)

theorem span_one (p : Char → Bool) (a b : Char) (r : Str) (ha : p a = true) (hb : p b = false) :
    (a :: b :: r).span p = ([a], b :: r) :=
  span_append_of p [a] (b :: r) (List.forall_mem_singleton.mpr ha) (Or.inr ⟨_, _, rfl, hb⟩)

theorem span_name_stop (name rest : Str) (h : isIdent name = true)
    (hrest : rest = [] ∨ ∃ c t, rest = c :: t ∧ (!isBlank c && c != ':') = false) :
    (name ++ rest).span (fun c => !isBlank c && c != ':') = (name, rest) :=
  span_append_of _ _ _ (fun c hc => tokChar_of_identChar (isIdent_all h c hc)) hrest

/-! ## receivers: `splitOn ','` after `joinCommaSp` (`joinComma` is `joinCommaSp 0`) -/

theorem joinCommaSp_cons2 (n : Nat) (a b : Str) (r : List Str) :
    joinCommaSp n (a :: b :: r) = a ++ ',' :: (sps n ++ joinCommaSp n (b :: r)) := by
  simp only [joinCommaSp, List.append_assoc, List.cons_append]

theorem joinCommaSp_zero (rs : List Str) : joinCommaSp 0 rs = joinComma rs := by
  induction rs with
  | nil => rfl
  | cons a rs ih =>
    cases rs with
    | nil => rfl
    | cons b rs => rw [joinCommaSp_cons2, ih]; rfl

theorem splitOn_go_append (sep : Char) (a cur rest : Str) (h : ∀ c ∈ a, c ≠ sep) :
    splitOn.go sep cur (a ++ rest) = splitOn.go sep (a.reverse ++ cur) rest := by
  induction a generalizing cur with
  | nil => rfl
  | cons x a ih =>
    have hx : (x == sep) = false := by simpa using h x (by simp)
    simp only [List.cons_append, splitOn.go, hx]
    rw [ih (x :: cur) (fun c hc => h c (by simp [hc]))]
    simp

theorem splitOn_go_joinCommaSp (n : Nat) (a : Str) (rs : List Str) (cur : Str)
    (h : ∀ r ∈ a :: rs, ∀ c ∈ r, c ≠ ',') :
    splitOn.go ',' cur (joinCommaSp n (a :: rs)) = (cur.reverse ++ a) :: rs.map (sps n ++ ·) := by
  induction rs generalizing a cur with
  | nil =>
    have := splitOn_go_append ',' a cur [] (h a (by simp))
    simp only [List.append_nil] at this
    simp [joinCommaSp, this, splitOn.go]
  | cons b rs ih =>
    rw [joinCommaSp_cons2, splitOn_go_append ',' a cur _ (h a (by simp))]
    simp only [splitOn.go, beq_self_eq_true, if_true]
    rw [splitOn_go_append ',' (sps n) [] _ (fun c hc => (List.mem_replicate.mp hc).2 ▸ by decide),
      ih b _ (fun r hr => h r (List.mem_cons_of_mem _ hr))]
    simp [sps, List.reverse_replicate]

theorem dropWhile_none (p : Char → Bool) (s : Str) (h : ∀ c ∈ s.head?, p c = false) : s.dropWhile p = s := by
  cases s with
  | nil => rfl
  | cons c r => simp [h c (by simp)]

theorem stripWs_id (s : Str) (a b : Char) (h1 : s.head? = some a) (h2 : s.getLast? = some b)
    (ha : isWs a = false) (hb : isWs b = false) : stripWs s = s := by
  unfold stripWs
  rw [dropWhile_none isWs s (by simp [h1, ha]), dropWhile_none isWs s.reverse (by simp [h2, hb]), List.reverse_reverse]

theorem stripWs_drop_ws (c : Char) (s : Str) (hc : isWs c = true) : stripWs (c :: s) = stripWs s := by
  simp [stripWs, hc]

theorem stripWs_sps (n : Nat) (s : Str) : stripWs (sps n ++ s) = stripWs s := by
  induction n with
  | zero => rfl
  | succ n ih => rw [sps_succ, List.cons_append, stripWs_drop_ws ' ' _ (by decide)]; exact ih

theorem stripWs_pad (a s b : Str) (ha : ∀ c ∈ a, isWs c = true) (hb : ∀ c ∈ b, isWs c = true)
    (hs : ∀ c ∈ s, isWs c = false) : stripWs (a ++ s ++ b) = s := by
  unfold stripWs
  rw [List.append_assoc, List.dropWhile_append_of_pos ha]
  cases s with
  | nil => simp [show b.dropWhile isWs = [] by simpa using List.dropWhile_append_of_pos (l₂ := []) hb]
  | cons x m =>
    -- the blanks in front go, `x` stops the first `dropWhile`; reversed, the blanks `b` go and the last character of `x :: m` stops
    have hl : ∀ c ∈ (x :: m).reverse.head?, isWs c = false := fun c hc =>
      hs c (List.mem_reverse.mp (List.mem_of_mem_head? hc))
    rw [List.cons_append, List.dropWhile_cons_of_neg (by simp [hs x]), ← List.cons_append, List.reverse_append,
      List.dropWhile_append_of_pos (by simpa using hb), dropWhile_none isWs _ hl, List.reverse_reverse]

theorem stripWs_cons_snoc (x y : Char) (m : Str) (hx : isWs x = false) (hy : isWs y = false) :
    stripWs (x :: (m ++ [y])) = x :: (m ++ [y]) :=
  stripWs_id _ x y rfl (List.getLast?_concat (l := x :: m)) hx hy

/-- a string that ends with an identifier character, as every rendered statement line does: `stripWs` leaves such a line as
it is (`stripWs_id_of`), and it does not end in the quote after which `parseSg` appends ` Vector__XXX` (`LastOK.ne_quote`) -/
def LastOK (s : Str) : Prop := ∃ c, s.getLast? = some c ∧ isIdentChar c = true

theorem LastOK.append (a : Str) {b : Str} (h : LastOK b) : LastOK (a ++ b) := by
  obtain ⟨c, hc, hi⟩ := h
  refine ⟨c, ?_, hi⟩
  rw [List.getLast?_append, hc]; rfl

theorem LastOK.cons (a : Char) {b : Str} (h : LastOK b) : LastOK (a :: b) :=
  LastOK.append [a] h

theorem LastOK.of_isIdent {s : Str} (h : isIdent s = true) : LastOK s :=
  ⟨s.getLast (isIdent_ne_nil h), List.getLast?_eq_some_getLast _, isIdent_all h _ (List.getLast_mem _)⟩

theorem LastOK.joinCommaSp (n : Nat) (rs : List Str) (hne : rs ≠ []) (h : ∀ r ∈ rs, isIdent r = true) :
    LastOK (joinCommaSp n rs) := by
  induction rs with
  | nil => exact absurd rfl hne
  | cons a rs ih =>
    cases rs with
    | nil => exact LastOK.of_isIdent (h a (by simp))
    | cons b rs =>
      rw [joinCommaSp_cons2]
      exact LastOK.append a (LastOK.cons ',' (LastOK.append _
        (ih (by simp) (fun r hr => h r (List.mem_cons_of_mem _ hr)))))

theorem LastOK.ne_quote {s : Str} (h : LastOK s) : (s.getLast? == some '"') = false := by
  obtain ⟨c, hc, hi⟩ := h
  rw [hc]
  exact beq_false_of_ne (fun hq => identChar_ne hi (d := '"') rfl (Option.some.inj hq))

theorem stripWs_id_of (s : Str) (a : Char) (h1 : s.head? = some a) (ha : isWs a = false) (hl : LastOK s) :
    stripWs s = s := by
  obtain ⟨b, hb, hi⟩ := hl
  exact stripWs_id s a b h1 hb ha (identChar_not_ws hi)

theorem stripWs_ident {s : Str} (h : isIdent s = true) : stripWs s = s := by
  obtain ⟨x, t, rfl, hx⟩ := isIdent_head h
  exact stripWs_id_of _ x rfl (identChar_not_ws hx) (LastOK.of_isIdent h)

theorem receivers_lex (n : Nat) (rs : List Str) (hne : rs ≠ []) (hr : ∀ r ∈ rs, isIdent r = true) :
    (splitOn ',' (joinCommaSp n rs)).map stripWs = rs := by
  obtain ⟨a, t, rfl⟩ := List.exists_cons_of_ne_nil hne
  unfold splitOn
  rw [splitOn_go_joinCommaSp n a t [] (fun r hr' c hc => identChar_ne_comma (isIdent_all (hr r hr') c hc))]
  rw [List.map_cons, List.map_map, List.reverse_nil, List.nil_append, stripWs_ident (hr a (by simp))]
  refine congrArg (a :: ·) ((List.map_congr_left fun r hr' => ?_).trans (List.map_id t))
  rw [Function.comp_apply, stripWs_sps, stripWs_ident (hr r (List.mem_cons_of_mem _ hr'))]
  rfl

theorem joinCommaSp_head (n : Nat) (rs : List Str) (hne : rs ≠ []) (h : ∀ r ∈ rs, isIdent r = true) :
    ∃ x t, joinCommaSp n rs = x :: t ∧ isIdentChar x = true := by
  obtain ⟨a, rs, rfl⟩ := List.exists_cons_of_ne_nil hne
  obtain ⟨x, t, rfl, hxi⟩ := isIdent_head (h a (by simp))
  cases rs with
  | nil => exact ⟨x, t, rfl, hxi⟩
  | cons b rs => exact ⟨x, _, rfl, hxi⟩

theorem skipSp_sps_joinCommaSp (k n : Nat) (rs : List Str) (hne : rs ≠ []) (hr : ∀ r ∈ rs, isIdent r = true) :
    skipSp (sps k ++ joinCommaSp n rs) = joinCommaSp n rs := by
  obtain ⟨x, t, e, hxi⟩ := joinCommaSp_head n rs hne hr
  rw [e]
  exact skipSp_sps_cons k x t (identChar_ne_space hxi)

/-! ## keyword and token stages of the statements after `SG_` -/

theorem startsWith_nil (s : Str) : startsWith s [] = true := by
  simp [startsWith]

theorem startsWith_cons (c : Char) (s k : Str) : startsWith (c :: s) (c :: k) = startsWith s k := by
  simp [startsWith]

theorem startsWith_ne {c d : Char} (h : c ≠ d) (s k : Str) : startsWith (c :: s) (d :: k) = false := by
  simp [startsWith, h]

theorem skipSp_blank_ne (c : Char) (r : Str) (h : c ≠ ' ') : skipSp (' ' :: c :: r) = c :: r :=
  skipSp_sps_cons 1 c r h

/-- (`b` comes with a proof that it is a cons, not as one: in the callers it is `joinComma …` or `joinCommaBlank …`, and `simp`
has to find it in the goal as it stands) -/
theorem skipSp_blank_body (b r : Str) (c : Char) (t : Str) (hb : b = c :: t) (hc : c ≠ ' ') :
    skipSp (' ' :: (b ++ r)) = b ++ r := by
  subst hb
  exact skipSp_blank_ne c _ hc

theorem digits_not_blank {s : Str} (h : AllDig s) : ∀ c ∈ s, isBlank c = false :=
  fun c hc => identChar_not_blank (isDig_identChar (h c hc))

theorem span_tok (tok r : Str) (h : ∀ c ∈ tok, isBlank c = false) :
    (tok ++ ' ' :: r).span (fun c => !isBlank c) = (tok, ' ' :: r) :=
  span_append_of _ _ _ (fun c hc => by simp [h c hc]) (Or.inr ⟨_, _, rfl, by decide⟩)

/-- `\S+` behind blanks, in front of a blank (the word as `a :: s`: the readers ask for a first character) -/
theorem tok_word (a : Char) (s r : Str) (h : ∀ c ∈ a :: s, isBlank c = false) :
    (skipSp (' ' :: ((a :: s) ++ ' ' :: r))).span (fun c => !isBlank c) = (a :: s, ' ' :: r) := by
  rw [List.cons_append, skipSp_blank_ne a _ (not_blank_ne_space (h a List.mem_cons_self))]
  exact span_tok (a :: s) r h

/-- `[0-9]+` behind blanks, in front of a blank -/
theorem tok_num (a : Char) (s r : Str) (h : AllDig (a :: s)) :
    (skipSp (' ' :: ((a :: s) ++ ' ' :: r))).span isDigit = (a :: s, ' ' :: r) := by
  rw [List.cons_append, skipSp_blank_ne a _ ((h a List.mem_cons_self).ne rfl)]
  exact span_append_of isDigit _ _ (fun c hc => isDigit_of_isDig (h c hc)) (Or.inr ⟨_, _, rfl, by decide⟩)

theorem natDigits_cons (n : Nat) : ∃ d ds, natDigits n = d :: ds ∧ AllDig (d :: ds) ∧ digitsToNat (d :: ds) = some n := by
  obtain ⟨d, ds, h⟩ := List.exists_cons_of_ne_nil (natDigits_ne_nil n)
  exact ⟨d, ds, h, h ▸ natDigits_allDig n, h ▸ digitsToNat_natDigits' n⟩

end CanVerif.Dbc
