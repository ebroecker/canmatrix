/-!
# Python's list loops as list functions

`x = lookup(...); x.field = v` changes the first match only (`rewriteFirst`); where the test asks for a
key that is unique in the list, the first match is the only one and the whole list may as well be
mapped.  `for x in todo: l.remove(x)` is a fold of `List.erase`; when `todo` was collected from `l`
itself by a test, what is left of `l` is what fails the test.  The slice comparisons `n[:len(p)] == p`
and `n[-len(s):] == s` are the prefix and suffix tests.
-/
namespace CanVerif
variable {α β κ : Type}

def rewriteFirst (p : α → Bool) (u : α → α) : List α → List α
  | [] => []
  | x :: t => if p x then u x :: t else x :: rewriteFirst p u t

theorem rewriteFirst_append (p : α → Bool) (u : α → α) {F : List α} (h : ∀ x ∈ F, p x = false)
    (rest : List α) : rewriteFirst p u (F ++ rest) = F ++ rewriteFirst p u rest := by
  induction F with
  | nil => rfl
  | cons x F ih =>
    rw [List.cons_append, rewriteFirst, h x List.mem_cons_self,
      ih fun y hy => h y (List.mem_cons_of_mem _ hy)]
    rfl

theorem map_rewriteFirst (p : α → Bool) {u : α → α} {c : α → β} (h : ∀ x, c (u x) = c x)
    (l : List α) : (rewriteFirst p u l).map c = l.map c := by
  induction l with
  | nil => rfl
  | cons x t ih =>
    rw [rewriteFirst]
    split
    · rw [List.map_cons, h, List.map_cons]
    · rw [List.map_cons, ih, List.map_cons]

theorem key_ne_of_nodup {key : α → κ} {a : α} {t : List α}
    (h : ((a :: t).map key).Nodup) {x : α} (hx : x ∈ t) : key x ≠ key a :=
  fun e => (List.nodup_cons.mp h).1 (e ▸ List.mem_map_of_mem hx)

theorem rewriteFirst_eq_map [BEq κ] [LawfulBEq κ] (key : α → κ) (k : κ) (u : α → α) (l : List α)
    (hu : (l.map key).Nodup) :
    rewriteFirst (key · == k) u l = l.map fun x => if key x == k then u x else x := by
  induction l with
  | nil => rfl
  | cons a t ih =>
    rw [rewriteFirst, List.map_cons]
    by_cases h : key a = k
    · have : t.map (fun x => if key x == k then u x else x) = t :=
        (List.map_congr_left fun x hx => if_neg (by simpa [← h] using key_ne_of_nodup hu hx)).trans
          (List.map_id _)
      simp [h, this]
    · simp [h, ih (List.nodup_cons.mp hu).2]

section Erase
variable [DecidableEq α]

theorem foldl_erase_cons {a : α} {todo : List α} (h : a ∉ todo) (acc : List α) :
    todo.foldl List.erase (a :: acc) = a :: todo.foldl List.erase acc := by
  induction todo generalizing acc with
  | nil => rfl
  | cons s t ih =>
    simp only [List.mem_cons, not_or] at h
    rw [List.foldl_cons, List.erase_cons_tail (by simpa using h.1), ih h.2, List.foldl_cons]

theorem foldl_erase_filter (P : α → Bool) (l : List α) :
    (l.filter P).foldl List.erase l = l.filter (fun x => !P x) := by
  induction l with
  | nil => rfl
  | cons a t ih =>
    cases h : P a
    · have : a ∉ t.filter P := fun hm => by simp [h] at hm
      rw [List.filter_cons_of_neg (by simp [h]), List.filter_cons_of_pos (by simp [h]),
        foldl_erase_cons this, ih]
    · rw [List.filter_cons_of_pos h, List.filter_cons_of_neg (by simp [h]), List.foldl_cons,
        List.erase_cons_head, ih]

theorem foldl_if_erase (P : α → Bool) (todo acc : List α) :
    todo.foldl (fun acc s => if P s then acc.erase s else acc) acc = (todo.filter P).foldl List.erase acc := by
  induction todo generalizing acc with
  | nil => rfl
  | cons s t ih => cases h : P s <;> simp [h, ih]

end Erase

theorem take_beq_eq_isPrefixOf (p n : List Char) : (n.take p.length == p) = p.isPrefixOf n := by
  rw [Bool.eq_iff_iff, beq_iff_eq, List.isPrefixOf_iff_prefix, List.prefix_iff_eq_take]
  exact eq_comm

theorem drop_beq_eq_isSuffixOf (s n : List Char) : (n.drop (n.length - s.length) == s) = s.isSuffixOf n := by
  rw [Bool.eq_iff_iff, beq_iff_eq, List.isSuffixOf_iff_suffix, List.suffix_iff_eq_drop]
  exact eq_comm

end CanVerif
