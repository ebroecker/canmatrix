import CanVerif.Model.DbcComment
import CanVerif.Proofs.DbcVal
import CanVerif.Proofs.DbcStmt
/-!
# The comment statement over one or several lines is read back as written (Props/C05d.lean)

Unescaping undoes escaping except where a backslash meets the closing quote; a text is the join of its lines; on the lines the
writer emits the reader does not take the first one for closed, appends the middle ones and stops at the last.
-/
namespace CanVerif.Dbc.CommentProofs
open CanVerif CanVerif.Dbc CanVerif.Dbc.ValProofs CanVerif.Dbc.StmtProofs

theorem escape_append (a b : Str) : escapeQuotes (a ++ b) = escapeQuotes a ++ escapeQuotes b := by
  induction a using escapeQuotes.induct with
  | case1 => rfl
  | case2 r ih => rw [List.cons_append, escape_quote, escape_quote, ih]; rfl
  | case3 c r hc ih => rw [List.cons_append, escape_cons_ne c _ hc, escape_cons_ne c _ hc, ih]; rfl

theorem unescape_escape_close (a : Str) (h : a.getLast? ≠ some '\\') :
    unescapeQuotes (escapeQuotes a ++ ['"', ';']) = a ++ ['"', ';'] :=
  unescape_escape_append a _ (fun hl => absurd hl h)

theorem escape_no_nl (l : Str) (h : ∀ c ∈ l, c ≠ '\n') : ∀ c ∈ escapeQuotes l, c ≠ '\n' := by
  induction l using escapeQuotes.induct with
  | case1 => exact h
  | case2 r ih =>
    rw [List.forall_mem_cons] at h
    rw [escape_quote, List.forall_mem_cons, List.forall_mem_cons]
    exact ⟨by decide, by decide, ih h.2⟩
  | case3 d r hd ih =>
    rw [List.forall_mem_cons] at h
    rw [escape_cons_ne _ _ hd, List.forall_mem_cons]
    exact ⟨h.1, ih h.2⟩

theorem joinLines_cons (a : Str) (r : List Str) (h : r ≠ []) : joinLines (a :: r) = a ++ '\n' :: joinLines r := by
  cases r with
  | nil => exact absurd rfl h
  | cons b r => rfl

theorem splitLines_joinLines (rs : List Str) (hne : rs ≠ []) (h : ∀ r ∈ rs, ∀ c ∈ r, c ≠ '\n') :
    splitLines (joinLines rs) = rs := by
  obtain ⟨a, rs, rfl⟩ := List.exists_cons_of_ne_nil hne
  exact splitRaw_go_join '\n' joinLines (fun _ => rfl) (fun _ _ _ => rfl) a rs [] h

theorem exists_lines (t : Str) : ∃ a rs, t = joinLines (a :: rs) ∧ ∀ l ∈ a :: rs, ∀ c ∈ l, c ≠ '\n' := by
  induction t with
  | nil => exact ⟨[], [], rfl, by simp⟩
  | cons x r ih =>
    obtain ⟨a, rs, rfl, h⟩ := ih
    by_cases hx : x = '\n'
    · subst hx
      exact ⟨[], a :: rs, rfl, List.forall_mem_cons.mpr ⟨by simp, h⟩⟩
    · obtain ⟨ha, hrs⟩ := List.forall_mem_cons.mp h
      exact ⟨x :: a, rs, by cases rs <;> rfl, List.forall_mem_cons.mpr ⟨List.forall_mem_cons.mpr ⟨hx, ha⟩, hrs⟩⟩

theorem lines_of (t : Str) :
    splitLines t ≠ [] ∧ (∀ l ∈ splitLines t, ∀ c ∈ l, c ≠ '\n') ∧ joinLines (splitLines t) = t := by
  obtain ⟨a, rs, rfl, h⟩ := exists_lines t
  rw [splitLines_joinLines _ (List.cons_ne_nil a rs) h]
  exact ⟨List.cons_ne_nil a rs, h, rfl⟩

theorem joinLines_snoc_append (init : List Str) (last x : Str) :
    joinLines (init ++ [last]) ++ x = joinLines (init ++ [last ++ x]) := by
  induction init with
  | nil => simp [joinLines]
  | cons a init ih =>
    simp only [List.cons_append]
    rw [joinLines_cons _ _ (by simp), joinLines_cons _ _ (by simp), ← ih]
    simp

theorem escape_joinLines (ls : List Str) : escapeQuotes (joinLines ls) = joinLines (ls.map escapeQuotes) := by
  induction ls with
  | nil => rfl
  | cons a r ih =>
    cases r with
    | nil => simp [joinLines]
    | cons b r' =>
      rw [joinLines_cons a (b :: r') (by simp), escape_append, escape_cons_ne _ _ (by decide), ih]
      simp only [List.map_cons, joinLines]

theorem render_lines (init : List Str) (last : Str) (h : ∀ l ∈ init ++ [last], ∀ c ∈ l, c ≠ '\n') :
    renderCommentBody (joinLines (init ++ [last])) = init.map escapeQuotes ++ [escapeQuotes last ++ ['"', ';']] := by
  unfold renderCommentBody
  rw [escape_joinLines, List.map_append, List.map_singleton, joinLines_snoc_append, splitLines_joinLines _ (by simp)]
  refine List.forall_mem_append.mpr ⟨List.forall_mem_map.mpr fun l hl => escape_no_nl l (h l (by simp [hl])), ?_⟩
  exact List.forall_mem_singleton.mpr (List.forall_mem_append.mpr ⟨escape_no_nl last (h last (by simp)), by decide⟩)

theorem blanksThenSemi_blank (r : Str) : blanksThenSemi (' ' :: r) = blanksThenSemi r := by
  simp [blanksThenSemi]

theorem blanksThenSemi_semi (r : Str) : blanksThenSemi (';' :: r) = true := by
  simp [blanksThenSemi]

theorem blanksThenSemi_other (c : Char) (r : Str) (h1 : c ≠ ' ') (h2 : c ≠ ';') : blanksThenSemi (c :: r) = false := by
  unfold blanksThenSemi
  rw [List.dropWhile_cons, beq_false_of_ne h1]
  simp only [Bool.false_eq_true, if_false]
  split
  · next heq => simp only [List.cons.injEq] at heq; exact absurd heq.1 h2
  · rfl

theorem blanksThenSemi_escape (r : Str) : blanksThenSemi (escapeQuotes r) = blanksThenSemi r := by
  induction r using escapeQuotes.induct with
  | case1 => rfl
  | case2 r _ => rw [escape_quote, blanksThenSemi_other _ _ (by decide) (by decide), blanksThenSemi_other _ _ (by decide) (by decide)]
  | case3 c r hq ih =>
    rw [escape_cons_ne _ _ hq]
    by_cases hb : c = ' '
    · subst hb; rw [blanksThenSemi_blank, blanksThenSemi_blank, ih]
    · by_cases hs : c = ';'
      · subst hs; rw [blanksThenSemi_semi, blanksThenSemi_semi]
      · rw [blanksThenSemi_other _ _ hb hs, blanksThenSemi_other _ _ hb hs]

theorem blanksThenSemi_append (r x : Str) (h : blanksThenSemi r = true) : blanksThenSemi (r ++ x) = true := by
  induction r with
  | nil => exact absurd h (by decide)
  | cons c r ih =>
    by_cases hb : c = ' '
    · subst hb
      rw [blanksThenSemi_blank] at h
      simp only [List.cons_append]
      rw [blanksThenSemi_blank]; exact ih h
    · by_cases hs : c = ';'
      · subst hs; simp only [List.cons_append]; rw [blanksThenSemi_semi]
      · rw [blanksThenSemi_other _ _ hb hs] at h; cases h

theorem quoteThenSemi_cons (c : Char) (r : Str) :
    quoteThenSemi (c :: r) = ((c == '"' && blanksThenSemi r) || quoteThenSemi r) := by
  rw [quoteThenSemi]

/-- escaping keeps every quote and what follows it: a quote in front of ` *;` before iff after -/
theorem quoteThenSemi_escape (l : Str) : quoteThenSemi (escapeQuotes l) = quoteThenSemi l := by
  induction l using escapeQuotes.induct with
  | case1 => rfl
  | case2 r ih =>
    rw [escape_quote, quoteThenSemi_cons, quoteThenSemi_cons, quoteThenSemi_cons, ih, blanksThenSemi_escape]
    simp
  | case3 c r hq ih => rw [escape_cons_ne _ _ hq, quoteThenSemi_cons, quoteThenSemi_cons, ih, blanksThenSemi_escape]

theorem quoteThenSemi_append (p x : Str) (h : quoteThenSemi p = true) : quoteThenSemi (p ++ x) = true := by
  induction p with
  | nil => exact absurd h (by decide)
  | cons c r ih =>
    simp only [List.cons_append]
    rw [quoteThenSemi_cons] at h ⊢
    simp only [Bool.or_eq_true, Bool.and_eq_true] at h ⊢
    rcases h with ⟨h1, h2⟩ | h
    · exact Or.inl ⟨h1, blanksThenSemi_append r x h2⟩
    · exact Or.inr (ih h)

theorem rstripWs_prefix (s : Str) : ∃ x, s = rstripWs s ++ x := by
  refine ⟨(s.reverse.takeWhile isWs).reverse, ?_⟩
  unfold rstripWs
  rw [← List.reverse_append, List.takeWhile_append_dropWhile, List.reverse_reverse]

theorem closeOnLine_go_none (s pre : Str) (best : Option Str) (h : quoteThenSemi s = false) :
    closeOnLine.go pre best s = best := by
  induction s generalizing pre best with
  | nil => simp [closeOnLine.go]
  | cons c r ih =>
    rw [quoteThenSemi_cons] at h
    simp only [Bool.or_eq_false_iff] at h
    rw [closeOnLine.go, h.1]
    exact ih _ _ h.2

theorem first_line_open (l : Str) (h : quoteThenSemi l = false) : closeOnLine (rstripWs (escapeQuotes l)) = none := by
  unfold closeOnLine
  apply closeOnLine_go_none
  refine Bool.eq_false_iff.mpr fun hq => ?_
  obtain ⟨x, hx⟩ := rstripWs_prefix (escapeQuotes l)
  have := quoteThenSemi_append _ x hq
  rw [← hx, quoteThenSemi_escape, h] at this
  cases this

/-- greedy: of the quotes followed by ` *;` the last one closes - the one the writer appended -/
theorem closeOnLine_go_close (a pre : Str) (best : Option Str) :
    closeOnLine.go pre best (a ++ ['"', ';']) = some (pre.reverse ++ a) := by
  induction a generalizing pre best with
  | nil => simp [closeOnLine.go, blanksThenSemi]
  | cons c r ih =>
    simp only [List.cons_append]
    rw [closeOnLine.go, ih]
    simp

theorem close_on_line (e : Str) : closeOnLine (rstripWs (e ++ ['"', ';'])) = some e := by
  rw [show rstripWs (e ++ ['"', ';']) = e ++ ['"', ';'] by simp [rstripWs, isWs]]
  unfold closeOnLine
  rw [closeOnLine_go_close]
  simp

theorem dropWhile_close (x : Str) : ∃ y, (x ++ ['"', ';']).dropWhile isWs = y ++ ['"', ';'] := by
  induction x with
  | nil => exact ⟨[], by simp [isWs]⟩
  | cons c r ih =>
    by_cases hc : isWs c = true
    · obtain ⟨y, hy⟩ := ih
      exact ⟨y, by simp only [List.cons_append, List.dropWhile_cons, hc, if_true]; exact hy⟩
    · exact ⟨c :: r, by simp only [List.cons_append, List.dropWhile_cons, hc]; rfl⟩

theorem endsStatement_close (x : Str) : endsStatement (x ++ ['"', ';']) = true := by
  obtain ⟨y, hy⟩ := dropWhile_close x
  unfold endsStatement stripWs
  rw [hy]
  simp [isWs]

theorem rstrip_snoc (x : Str) (c : Char) (h : isBlank c = false) : rstrip (x ++ [c]) = x ++ [c] := by
  simp [rstrip, h]

theorem dropClosing_close (x : Str) : dropClosing (x ++ ['"', ';']) = x := by
  have e : x ++ ['"', ';'] = (x ++ ['"']) ++ [';'] := by simp
  unfold dropClosing
  rw [e, rstrip_snoc _ _ (by decide), List.dropLast_concat, rstrip_snoc _ _ (by decide), List.dropLast_concat]

theorem followUp_lines (mid : List Str) (last acc : Str) (more : List Str)
    (hmid : ∀ l ∈ mid, endsStatement (escapeQuotes l) = false) (hlast : last.getLast? ≠ some '\\') :
    followUp acc (mid.map escapeQuotes ++ (escapeQuotes last ++ ['"', ';']) :: more) =
      some (acc ++ '\n' :: joinLines (mid ++ [last])) := by
  induction mid generalizing acc with
  | nil =>
    simp only [List.map_nil, List.nil_append, joinLines]
    rw [followUp]
    simp only [endsStatement_close, if_true]
    rw [unescape_escape_close _ hlast]
    have e : acc ++ '\n' :: (last ++ ['"', ';']) = (acc ++ '\n' :: last) ++ ['"', ';'] := by simp
    rw [e, dropClosing_close]
  | cons m mid ih =>
    simp only [List.map_cons, List.cons_append]
    rw [followUp]
    simp only [hmid m (by simp), unescape_escape, Bool.false_eq_true, if_false]
    rw [ih _ (fun l hl => hmid l (List.mem_cons_of_mem _ hl)), joinLines_cons m _ (by simp)]
    simp

theorem read_one_line (t : Str) (rest : List Str) : readCommentBody (escapeQuotes t ++ ['"', ';']) rest = some t := by
  unfold readCommentBody
  rw [close_on_line]
  simp only [unescape_escape]

theorem read_lines (l0 : Str) (mid : List Str) (last : Str) (more : List Str) (h0 : quoteThenSemi l0 = false)
    (hmid : ∀ l ∈ mid, endsStatement (escapeQuotes l) = false) (hlast : last.getLast? ≠ some '\\') :
    readCommentBody (escapeQuotes l0) ((mid.map escapeQuotes ++ [escapeQuotes last ++ ['"', ';']]) ++ more) =
      some (joinLines (l0 :: (mid ++ [last]))) := by
  unfold readCommentBody
  rw [first_line_open l0 h0]
  simp only [unescape_escape, List.append_assoc, List.singleton_append]
  rw [followUp_lines mid last l0 more hmid hlast, joinLines_cons l0 _ (by simp)]

theorem getLast_joinLines (init : List Str) (last : Str) (c : Char) (h : last.getLast? = some c) :
    (joinLines (init ++ [last])).getLast? = some c := by
  rw [← List.nil_append last, ← joinLines_snoc_append, List.getLast?_append, h]
  rfl

theorem snoc_of_cons (a : Str) (r : List Str) : ∃ mid last, a :: r = mid ++ [last] ∧ (a :: r).dropLast = mid :=
  ⟨(a :: r).dropLast, (a :: r).getLast (by simp), (List.dropLast_concat_getLast _).symm, rfl⟩

/-- `wfComment` in terms of the lines of the text, with what the writer emits for them -/
theorem wfComment_lines (t : Str) (h : wfComment t = true) :
    renderCommentBody t = [escapeQuotes t ++ ['"', ';']] ∨
    ∃ l0 mid last, joinLines (l0 :: (mid ++ [last])) = t ∧
      renderCommentBody t = escapeQuotes l0 :: (mid.map escapeQuotes ++ [escapeQuotes last ++ ['"', ';']]) ∧
      quoteThenSemi l0 = false ∧ (∀ l ∈ mid, endsStatement (escapeQuotes l) = false) ∧ last.getLast? ≠ some '\\' := by
  obtain ⟨hne, hnl, hjoin⟩ := lines_of t
  cases hls : splitLines t with
  | nil => exact absurd hls hne
  | cons l0 tl =>
    rw [hls] at hnl hjoin
    cases tl with
    | nil =>
      subst hjoin
      exact Or.inl (render_lines [] l0 hnl)
    | cons l1 r =>
      unfold wfComment at h
      rw [hls] at h
      simp only [Bool.and_eq_true, Bool.not_eq_true', List.all_eq_true, bne_iff_ne, ne_eq] at h
      obtain ⟨_, ⟨h0, hm⟩, hbs⟩ := h
      obtain ⟨mid, last, hml, hdl⟩ := snoc_of_cons l1 r
      rw [hdl] at hm
      rw [hml] at hnl hjoin
      have hlast : last.getLast? ≠ some '\\' := fun hc => hbs (hjoin ▸ getLast_joinLines (l0 :: mid) last _ hc)
      have hr := render_lines (l0 :: mid) last hnl
      rw [List.cons_append, hjoin] at hr
      exact Or.inr ⟨l0, mid, last, hjoin, hr, h0, hm, hlast⟩

theorem roundtrip_more (t : Str) (h : wfComment t = true) (more : List Str) :
    ∃ first rest, renderCommentBody t = first :: rest ∧ readCommentBody first (rest ++ more) = some t := by
  rcases wfComment_lines t h with hr | ⟨l0, mid, last, hjoin, hr, h0, hm, hlast⟩
  · exact ⟨_, _, hr, read_one_line t _⟩
  · exact ⟨_, _, hr, (read_lines l0 mid last more h0 hm hlast).trans (congrArg some hjoin)⟩

end CanVerif.Dbc.CommentProofs
