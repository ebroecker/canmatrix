import CanVerif.Model.Layout
import CanVerif.Spec.Bits
import CanVerif.Proofs.Bits
import CanVerif.Proofs.Codec
/-!
The usage map of a frame (`get_frame_layout`) is read through `Occ`: entry `j` lists the signals that occupy position
`j` (Motorola) or `flipN j` (Intel), `layout_mem`.  The dummy loop is followed by an invariant on its state (`DummyInv`); `maxBit` and
the byte count are least upper bounds; `fit_dlc` is a walk through an ascending table.
-/
namespace CanVerif

theorem appendRange_length (arr : List (List String)) (a b : Nat) (nm : String) :
    (appendRange arr a b nm).length = arr.length := by
  unfold appendRange
  rw [List.length_map, List.length_range]

theorem appendRange_getD (arr : List (List String)) (a b : Nat) (nm : String) (j : Nat) :
    (appendRange arr a b nm).getD j []
      = if a ≤ j ∧ j < b ∧ j < arr.length then arr.getD j [] ++ [nm] else arr.getD j [] := by
  unfold appendRange
  rw [List.getD_eq_getElem?_getD, List.getElem?_map]
  by_cases hj : j < arr.length
  · rw [List.getElem?_range hj]
    simp only [Option.map_some, Option.getD_some, Bool.and_eq_true, decide_eq_true_eq, hj, and_true]
  · rw [List.getElem?_eq_none (by simpa using hj), if_neg (fun h => hj h.2.2), List.getD_eq_getElem?_getD,
      List.getElem?_eq_none (by simpa using hj)]
    rfl

theorem appendRange_mem (arr : List (List String)) (a b : Nat) (nm x : String) (j : Nat) :
    x ∈ (appendRange arr a b nm).getD j []
      ↔ x ∈ arr.getD j [] ∨ (nm = x ∧ a ≤ j ∧ j < b ∧ j < arr.length) := by
  rw [appendRange_getD]
  split
  · rename_i h
    rw [List.mem_append, List.mem_singleton]
    exact or_congr_right ⟨fun e => ⟨e.symm, h⟩, fun e => e.1.symm⟩
  · rename_i h
    exact ⟨Or.inl, fun e => e.resolve_right fun e => h e.2⟩

/-- the body of both loops of `get_frame_layout`; `L` is the byte order the loop marks -/
def markStep (L : Bool) (a b : Sig → Nat) (arr : List (List String)) (s : Sig) : List (List String) :=
  if s.little = L then appendRange arr (a s) (b s) s.name else arr

theorem markStep_length (L : Bool) (a b : Sig → Nat) (arr : List (List String)) (s : Sig) :
    (markStep L a b arr s).length = arr.length := by
  unfold markStep
  split
  · exact appendRange_length ..
  · rfl

theorem markStep_mem (L : Bool) (a b : Sig → Nat) (arr : List (List String)) (s : Sig) (x : String) (j : Nat) :
    x ∈ (markStep L a b arr s).getD j []
      ↔ x ∈ arr.getD j [] ∨ (s.little = L ∧ s.name = x ∧ a s ≤ j ∧ j < b s ∧ j < arr.length) := by
  unfold markStep
  split
  · rename_i hc
    rw [appendRange_mem]
    exact or_congr_right ⟨fun h => ⟨hc, h⟩, fun h => h.2⟩
  · rename_i hc
    exact ⟨Or.inl, fun e => e.resolve_right fun e => hc e.1⟩

theorem markFold_length (L : Bool) (a b : Sig → Nat) (sigs : List Sig) (arr : List (List String)) :
    (sigs.foldl (markStep L a b) arr).length = arr.length :=
  List.foldlRecOn (motive := (·.length = arr.length)) sigs _ rfl fun r hr s _ => (markStep_length L a b r s).trans hr

theorem markFold_mem (L : Bool) (a b : Sig → Nat) (sigs : List Sig) (arr : List (List String))
    (x : String) (j : Nat) :
    x ∈ (sigs.foldl (markStep L a b) arr).getD j []
      ↔ x ∈ arr.getD j [] ∨ ∃ s ∈ sigs, s.little = L ∧ s.name = x ∧ a s ≤ j ∧ j < b s ∧ j < arr.length := by
  induction sigs generalizing arr with
  | nil => exact ⟨Or.inl, fun e => e.resolve_right fun ⟨_, h, _⟩ => absurd h List.not_mem_nil⟩
  | cons s t ih =>
    rw [List.foldl_cons, ih, markStep_mem, markStep_length, or_assoc]
    simp only [List.mem_cons, exists_eq_or_imp]

theorem getD_replicate_nil (n j : Nat) : (List.replicate n ([] : List String)).getD j [] = [] := by
  rw [List.getD_eq_getElem?_getD, List.getElem?_replicate]
  split <;> rfl

/-- first loop: Intel signals, indexed from the end of the frame (`reverseGroups` turns the bytes afterwards) -/
def littleArr (f : Frame) : List (List String) :=
  f.sigs.foldl (markStep true (fun s => f.size * 8 - s.start - s.size) (fun s => f.size * 8 - s.start))
    (List.replicate (f.size * 8) [])

/-- second loop: Motorola signals -/
def bigArr (f : Frame) : List (List String) :=
  f.sigs.foldl (markStep false (fun s => s.start) (fun s => s.start + s.size)) (List.replicate (f.size * 8) [])

theorem layout_unfold (f : Frame) :
    f.layout = (List.zip (reverseGroups f.size (littleArr f)) (bigArr f)).map fun (l, b) => l ++ b := by
  unfold Frame.layout littleArr bigArr
  simp only []
  congr 3
  funext arr s
  cases hl : s.little <;> simp [markStep, hl]

theorem littleArr_length (f : Frame) : (littleArr f).length = 8 * f.size := by
  unfold littleArr
  rw [markFold_length, List.length_replicate, Nat.mul_comm]

theorem bigArr_length (f : Frame) : (bigArr f).length = 8 * f.size := by
  unfold bigArr
  rw [markFold_length, List.length_replicate, Nat.mul_comm]

theorem length_layout (f : Frame) : f.layout.length = 8 * f.size := by
  rw [layout_unfold, List.length_map, List.length_zip, reverseGroups_length _ _ (littleArr_length f), bigArr_length,
    Nat.min_self]

/-- index `j` of the usage map, counted from the other end byte by byte (where `reverseGroups` takes it from), and its
Intel position `flipN j` -/
theorem revIndex (n j : Nat) (hj : j < 8 * n) : 8 * (n - 1 - j / 8) + j % 8 + flipN j + 1 = 8 * n := by
  unfold flipN
  omega

theorem layout_getD (f : Frame) (j : Nat) (hj : j < 8 * f.size) :
    f.layout.getD j [] = (littleArr f).getD (8 * (f.size - 1 - j / 8) + j % 8) [] ++ (bigArr f).getD j [] := by
  rw [layout_unfold]
  have h3 := reverseGroups_get f.size (littleArr f) j (littleArr_length f) hj
  simp only [List.getD_eq_getElem?_getD, List.getElem?_map]
  have hb : j < (bigArr f).length := by rw [bigArr_length]; exact hj
  have hl : 8 * (f.size - 1 - j / 8) + j % 8 < (littleArr f).length := by
    have := revIndex f.size j hj
    rw [littleArr_length]
    omega
  rw [List.zip_eq_zipWith, List.getElem?_zipWith, h3, List.getElem?_eq_getElem hb, List.getElem?_eq_getElem hl]
  rfl

/-- position `j` belongs to the signal `s`, in the numbering in which a signal occupies `start … start + size - 1`
(Motorola: position 0 = most significant bit of byte 0; Intel: position 0 = least significant bit of byte 0) -/
def Occ (s : Sig) (j : Nat) : Prop := s.start ≤ j ∧ j < s.start + s.size

theorem layout_mem (f : Frame) (j : Nat) (hj : j < 8 * f.size) (x : String) :
    x ∈ f.layout.getD j [] ↔ ∃ s ∈ f.sigs, s.name = x ∧ Occ s (if s.little then flipN j else j) := by
  rw [layout_getD f j hj, List.mem_append]
  unfold littleArr bigArr
  rw [markFold_mem, markFold_mem]
  simp only [getD_replicate_nil, List.not_mem_nil, false_or, List.length_replicate]
  -- of the index `q` into the Intel array and of `r = flipN j` only `q + r + 1 = 8 * f.size` is needed
  have hq := revIndex f.size j hj
  generalize 8 * (f.size - 1 - j / 8) + j % 8 = q at hq ⊢
  generalize flipN j = r at hq ⊢
  constructor
  · rintro (⟨s, hs, hlittle, hname, hlo, hhi, _⟩ | ⟨s, hs, hbig, hname, hlo, hhi, _⟩)
    · refine ⟨s, hs, hname, ?_⟩
      rw [show s.little = true from hlittle, if_pos rfl]
      unfold Occ
      omega
    · refine ⟨s, hs, hname, ?_⟩
      rw [show s.little = false from hbig, if_neg Bool.false_ne_true]
      exact ⟨hlo, hhi⟩
  · rintro ⟨s, hs, hn, ho⟩
    cases hl : s.little
    · rw [hl, if_neg Bool.false_ne_true] at ho
      exact Or.inr ⟨s, hs, hl, hn, ho.1, ho.2, by omega⟩
    · rw [hl, if_pos rfl] at ho
      obtain ⟨ho1, ho2⟩ := ho
      exact Or.inl ⟨s, hs, hl, hn, by omega⟩

theorem layout_mem_of_nodup (f : Frame) (hnd : (f.sigs.map (·.name)).Nodup) (j : Nat) (hj : j < 8 * f.size)
    (s : Sig) (hs : s ∈ f.sigs) : s.name ∈ f.layout.getD j [] ↔ Occ s (if s.little then flipN j else j) := by
  rw [layout_mem f j hj]
  constructor
  · rintro ⟨t, ht, hn, ho⟩
    rw [← name_inj hnd ht hs hn]
    exact ho
  · exact fun ho => ⟨s, hs, rfl, ho⟩

theorem occ_iff_sigAddr (s : Sig) (j : Nat) :
    Occ s (if s.little then flipN j else j) ↔ ∃ i, i < s.size ∧ sigAddr s.little s.start s.size i = flipN j := by
  unfold Occ sigAddr
  cases s.little
  · simp only [Bool.false_eq_true, if_false]
    constructor
    · rintro ⟨h1, h2⟩
      exact ⟨s.start + s.size - 1 - j, by omega, congrArg flipN (by omega)⟩
    · rintro ⟨i, hi, he⟩
      have := flipN_inj he
      omega
  · simp only [if_true]
    generalize flipN j = r
    constructor
    · rintro ⟨h1, h2⟩
      exact ⟨r - s.start, by omega, by omega⟩
    · rintro ⟨i, hi, he⟩
      omega

/-- the loops over `zip(range(len(l)), l)` are loops over the index -/
theorem zip_range_eq_map {α : Type} (l : List α) (d : α) :
    List.zip (List.range l.length) l = (List.range l.length).map fun p => (p, l.getD p d) := by
  apply List.ext_getElem
  · simp
  · intro i h1 h2
    have hi : i < l.length := by simpa using h1
    simp [List.getD_eq_getElem?_getD, hi]

/-- the test by which `C16.dummies_cover_exactly_gaps` counts the dummies on an entry -/
theorem decide_occ (d : Sig) (j : Nat) : (decide (d.start ≤ j) && decide (j < d.start + d.size)) = true ↔ Occ d j := by
  simp only [Occ, Bool.and_eq_true, decide_eq_true_eq]

/-- the text of the loop body in `createDummies` with `cell.isEmpty` and `index == n - 1` replaced by the variables `e` and `l`:
`createDummies_eq` ends in `rfl` for that reason, and the invariant is proved by cases on `e` and `l` -/
def dummyStep (frameName : String) (n : Nat) (st : DummyState) (k : Nat) (e l : Bool) : DummyState :=
  let st1 := if e && st.startBit.isNone then { st with startBit := some k } else st
  match st1.startBit with
  | some sb =>
    if l || !e then
      let idx := if l && e then n else k
      { startBit := none, count := st1.count + 1,
        out := st1.out ++ [{ name := dummyName frameName st1.count, start := sb, size := idx - sb, little := false, signed := true }] }
    else st1
  | none => st1

def dummyScan (nm : String) (bf : List (List String)) (k : Nat) : DummyState :=
  (List.range k).foldl (fun st k => dummyStep nm bf.length st k (bf.getD k []).isEmpty (k == bf.length - 1)) {}

theorem createDummies_eq (nm : String) (bf : List (List String)) : createDummies nm bf = (dummyScan nm bf bf.length).out := by
  unfold createDummies dummyScan
  simp only []
  rw [zip_range_eq_map bf [], List.foldl_map]
  rfl

/-- the dummies in `out` are well formed, end at or before `L`, and account for exactly the empty cells below `L` -/
def DummiesUpTo (bf : List (List String)) (L : Nat) (out : List Sig) : Prop :=
  (∀ d ∈ out, d.little = false ∧ 1 ≤ d.size ∧ d.start + d.size ≤ L) ∧
  (∀ j, j < L → (out.filter fun d => d.start ≤ j && j < d.start + d.size).length = if bf.getD j [] = [] then 1 else 0)

theorem no_dummy_at (out : List Sig) (L j : Nat) (h : ∀ d ∈ out, d.start + d.size ≤ L) (hj : L ≤ j) :
    (out.filter fun d => d.start ≤ j && j < d.start + d.size) = [] := by
  rw [List.filter_eq_nil_iff]
  intro d hd hc
  have := h d hd
  have := ((decide_occ d j).1 hc).2
  omega

theorem DummiesUpTo.skip_used {bf : List (List String)} {L : Nat} {out : List Sig}
    (h : DummiesUpTo bf L out) (hc : bf.getD L [] ≠ []) : DummiesUpTo bf (L + 1) out := by
  obtain ⟨ha, hb⟩ := h
  refine ⟨fun d hd => ?_, Nat.forall_lt_succ_right.2 ⟨hb, ?_⟩⟩
  · have := ha d hd
    exact ⟨this.1, this.2.1, by omega⟩
  · rw [no_dummy_at out L L (fun d hd => (ha d hd).2.2) (Nat.le_refl _), if_neg hc]
    rfl

theorem DummiesUpTo.close {bf : List (List String)} {sb e : Nat} {out : List Sig} (d0 : Sig)
    (h : DummiesUpTo bf sb out) (hse : sb < e) (hempty : ∀ i, i < e → sb ≤ i → bf.getD i [] = [])
    (hstart : d0.start = sb) (hsize : d0.size = e - sb) (hbig : d0.little = false) : DummiesUpTo bf e (out ++ [d0]) := by
  obtain ⟨ha, hb⟩ := h
  refine ⟨fun d hd => ?_, fun j hj => ?_⟩
  · rcases List.mem_append.1 hd with hd | hd
    · have := ha d hd; exact ⟨this.1, this.2.1, by omega⟩
    · simp only [List.mem_singleton] at hd; subst hd
      exact ⟨hbig, by omega⟩
  · rw [List.filter_append, List.length_append, List.filter_cons, List.filter_nil]
    by_cases hjs : j < sb
    · have hn : ¬ Occ d0 j := fun hc => by have := hc.1; omega
      rw [hb j hjs, if_neg (mt (decide_occ d0 j).1 hn)]
      rfl
    · rw [no_dummy_at out sb j (fun d hd => (ha d hd).2.2) (by omega), hempty j hj (by omega),
        if_pos ((decide_occ d0 j).2 (by unfold Occ; omega))]
      rfl

/-- Loop invariant of `create_dummy_signals` after the cells `0 … k-1`: the dummies so far account for the cells below `k`, or
below the start `sb` of an open run of empty cells; a run is never open after the last cell. -/
def DummyInv (bf : List (List String)) (k : Nat) : DummyState → Prop
  | ⟨none, _, out⟩ => DummiesUpTo bf k out
  | ⟨some sb, _, out⟩ => DummiesUpTo bf sb out ∧ sb < k ∧ k < bf.length ∧ ∀ i, i < k → sb ≤ i → bf.getD i [] = []

theorem dummyStep_inv (nm : String) (bf : List (List String)) (k : Nat) (st : DummyState) (hk : k < bf.length)
    (h : DummyInv bf k st) :
    DummyInv bf (k + 1) (dummyStep nm bf.length st k (bf.getD k []).isEmpty (k == bf.length - 1)) := by
  rcases st with ⟨sbo, cnt, out⟩
  cases hc : bf.getD k [] with
  | cons x xs =>
    -- a used cell closes an open run
    have hne : bf.getD k [] ≠ [] := by rw [hc]; exact List.cons_ne_nil x xs
    generalize (k == bf.length - 1) = l
    cases sbo with
    | none => cases l <;> exact DummiesUpTo.skip_used h hne
    | some sb =>
      obtain ⟨hg, hsb, _, hopen⟩ := h
      cases l <;> exact DummiesUpTo.skip_used (DummiesUpTo.close _ hg hsb hopen rfl rfl rfl) hne
  | nil =>
    -- an unused cell continues the open run or opens one at `k`; the last cell closes it at once
    obtain ⟨sb, hg, hsb, hopen, he⟩ : ∃ sb, DummiesUpTo bf sb out ∧ sb ≤ k ∧ (∀ i, i < k → sb ≤ i → bf.getD i [] = []) ∧
        ∀ l, dummyStep nm bf.length ⟨sbo, cnt, out⟩ k true l = dummyStep nm bf.length ⟨some sb, cnt, out⟩ k true l := by
      cases sbo with
      | none => exact ⟨k, h, Nat.le_refl k, fun i h1 h2 => by omega, fun _ => rfl⟩
      | some sb => exact ⟨sb, h.1, Nat.le_of_lt h.2.1, h.2.2.2, fun _ => rfl⟩
    have hrun := Nat.forall_lt_succ_right.2 ⟨hopen, fun _ => hc⟩
    show DummyInv bf (k + 1) (dummyStep nm bf.length ⟨sbo, cnt, out⟩ k true _)
    rw [he]
    by_cases hl : k = bf.length - 1
    · rw [show (k == bf.length - 1) = true from beq_iff_eq.2 hl]
      exact DummiesUpTo.close (e := k + 1) _ hg (by omega) hrun rfl (show bf.length - sb = k + 1 - sb by omega) rfl
    · rw [show (k == bf.length - 1) = false from beq_eq_false_iff_ne.2 hl]
      exact ⟨hg, by omega, by omega, hrun⟩

theorem dummyScan_inv (nm : String) (bf : List (List String)) (k : Nat) (hk : k ≤ bf.length) : DummyInv bf k (dummyScan nm bf k) := by
  induction k with
  | zero => exact ⟨fun d hd => absurd hd List.not_mem_nil, fun j hj => absurd hj (Nat.not_lt_zero j)⟩
  | succ k ih =>
    unfold dummyScan
    rw [List.range_succ, List.foldl_append]
    exact dummyStep_inv nm bf k _ hk (ih (Nat.le_of_lt hk))

theorem dummies_good (nm : String) (bf : List (List String)) : DummiesUpTo bf bf.length (createDummies nm bf) := by
  have h := dummyScan_inv nm bf bf.length (Nat.le_refl _)
  rw [createDummies_eq]
  generalize dummyScan nm bf bf.length = st at h ⊢
  rcases st with ⟨_ | sb, cnt, out⟩
  · exact h
  · exact absurd h.2.2.1 (Nat.lt_irrefl _)

theorem maxFold_le_iff (sigs : List Sig) (m0 m : Nat) :
    sigs.foldl (fun m s => if s.start + s.size > m then s.start + s.size else m) m0 ≤ m
      ↔ m0 ≤ m ∧ ∀ s ∈ sigs, s.start + s.size ≤ m := by
  induction sigs generalizing m0 with
  | nil => exact ⟨fun h => ⟨h, fun _ hs => absurd hs List.not_mem_nil⟩, fun h => h.1⟩
  | cons a t ih =>
    rw [List.foldl_cons, ih, List.forall_mem_cons, ← and_assoc]
    refine and_congr_left fun _ => ?_
    split <;> omega

theorem maxBit_le_iff (sigs : List Sig) (m : Nat) : maxBit sigs ≤ m ↔ ∀ s ∈ sigs, s.start + s.size ≤ m :=
  (maxFold_le_iff sigs 0 m).trans (and_iff_right (Nat.zero_le m))

theorem bytes_le_iff (sigs : List Sig) (n : Nat) : (maxBit sigs + 7) / 8 ≤ n ↔ ∀ s ∈ sigs, s.start + s.size ≤ 8 * n := by
  rw [← maxBit_le_iff]
  omega

theorem fitDlc_go_of_le_last (n : Nat) (l : List Nat) (last : Nat) (hs : (last :: l).Pairwise (· < ·)) (h : n ≤ last) :
    fitDlc.go n last l = n := by
  induction l generalizing last with
  | nil => rfl
  | cons m t ih =>
    have hs' := List.pairwise_cons.1 hs
    unfold fitDlc.go
    rw [if_neg (by simp only [Bool.and_eq_true, decide_eq_true_eq]; omega)]
    exact ih m hs'.2 (Nat.le_of_lt (Nat.lt_of_le_of_lt h (hs'.1 m List.mem_cons_self)))

theorem fitDlc_go_spec (n : Nat) (l : List Nat) (last : Nat) (hs : (last :: l).Pairwise (· < ·)) (h : last < n) :
    n ≤ fitDlc.go n last l ∧ (fitDlc.go n last l ∈ l ∨ (fitDlc.go n last l = n ∧ ∀ m ∈ l, m < n)) ∧
      ∀ p ∈ l, n ≤ p → fitDlc.go n last l ≤ p := by
  induction l generalizing last with
  | nil => exact ⟨Nat.le_refl n, Or.inr ⟨rfl, fun _ hm => absurd hm List.not_mem_nil⟩, fun _ hp => absurd hp List.not_mem_nil⟩
  | cons m t ih =>
    have hs' := List.pairwise_cons.1 hs
    have hmt := (List.pairwise_cons.1 hs'.2).1
    unfold fitDlc.go
    by_cases hnm : n < m
    · rw [if_pos (by simp only [Bool.and_eq_true, decide_eq_true_eq]; omega)]
      exact ⟨Nat.le_of_lt hnm, Or.inl List.mem_cons_self,
        List.forall_mem_cons.2 ⟨fun _ => Nat.le_refl m, fun p hp _ => Nat.le_of_lt (hmt p hp)⟩⟩
    · rw [if_neg (by simp only [Bool.and_eq_true, decide_eq_true_eq]; omega)]
      rcases Nat.lt_or_eq_of_le (Nat.le_of_not_lt hnm) with hlt | rfl
      · obtain ⟨hle, hres, hleast⟩ := ih m hs'.2 hlt
        refine ⟨hle, ?_, List.forall_mem_cons.2 ⟨fun hnm' => absurd hlt (Nat.not_lt.2 hnm'), hleast⟩⟩
        exact hres.imp (List.mem_cons_of_mem m) fun e => ⟨e.1, List.forall_mem_cons.2 ⟨hlt, e.2⟩⟩
      · rw [fitDlc_go_of_le_last m t m hs'.2 (Nat.le_refl m)]
        exact ⟨Nat.le_refl _, Or.inl List.mem_cons_self, fun _ _ hp => hp⟩

end CanVerif
