import CanVerif.Proofs.DbcRoundtrip
/-!
# What the statements of a DBC file do to the matrix, group of sections by group

The ECUs (`BU_:` line, comments), attribute definitions with their defaults and the attributes of ECUs and matrix (`itemsDefs_fold`), the attributes
of frames and signals (`ba_fold`); what statements about frames, signals and ECUs leave alone (`item_rest`); one frame under all sections
(`per_frame`); and that no statement of the written file prints a line error (`fine_fold`): after the frame section nothing changes an
identifier or the name of a signal (`Shaped`), so every statement finds what it names.
-/
namespace CanVerif.Dbc.FileProofs
open CanVerif CanVerif.Dbc

def isEcuItem : Item → Bool
  | .bu _ => true
  | .cm (.bu _) _ => true
  | _ => false

theorem ecuItem_frames (m : RMatrix) (it : Item) (h : isEcuItem it = true) :
    (applyItem m it).frames = m.frames ∧ (applyItem m it).errors = m.errors := by
  cases it with
  | bu names => exact ⟨rfl, rfl⟩
  | cm hd text =>
    cases hd with
    | bu name =>
      simp only [applyItem, Item.frameNo, applyCore]
      split <;> exact ⟨rfl, rfl⟩
    | _ => simp [isEcuItem] at h
  | _ => simp [isEcuItem] at h

theorem ecuItem_upd (it : Item) (h : isEcuItem it = true) (f : RFrame) : itemUpd it f = f := by
  cases it with
  | bu names => rfl
  | cm hd text =>
    cases hd with
    | bu name => rfl
    | _ => simp [isEcuItem] at h
  | _ => simp [isEcuItem] at h

theorem keys_of_map {m m' : RMatrix} {upd : RFrame → RFrame} (h : m'.frames = m.frames.map upd) (hk : ∀ f, (upd f).key = f.key) :
    m'.frames.map (·.key) = m.frames.map (·.key) := by
  rw [h, List.map_map]; exact List.map_congr_left fun f _ => hk f

theorem applyItem_frames_of_baOk (m : RMatrix) (hu : KeysUnique m) (it : Item) (hs : (itemFrameUpdA it).isSome = true) (hok : baOk m.defs it = true) :
    (applyItem m it).frames = m.frames.map (itemUpdA it) := by
  obtain ⟨⟨n, g⟩, hp⟩ := Option.isSome_iff_exists.mp hs
  rw [(frameItem_effect m hu it n g hp hok).1]
  apply List.map_congr_left
  intro f _
  simp [itemUpdA, hp]

theorem baOk_of_isSome (D : List RDef) (it : Item) (h : (itemFrameUpd it).isSome = true) : baOk D it = true := by
  cases it with
  | ba b => simp [itemFrameUpd] at h
  | _ => rfl

theorem applyItem_frames_itemUpd (m : RMatrix) (hu : KeysUnique m) (it : Item) (hit : (itemFrameUpd it).isSome = true) :
    (applyItem m it).frames = m.frames.map (itemUpd it) := by
  rw [applyItem_frames_of_baOk m hu it (isSomeA_of_isSome hit) (baOk_of_isSome _ it hit), itemUpdA_eq it hit]

theorem frames_after_items (its : List Item) (m : RMatrix) (hu : KeysUnique m)
    (hall : ∀ it ∈ its, (itemFrameUpd it).isSome = true ∨ isEcuItem it = true) :
    (its.foldl applyItem m).frames = m.frames.map fun f => its.foldl (fun acc it => itemUpd it acc) f := by
  induction its generalizing m with
  | nil => simp
  | cons it its ih =>
    simp only [List.foldl_cons]
    have h1 : (applyItem m it).frames = m.frames.map (itemUpd it) := by
      rcases hall it (by simp) with h | h
      · exact applyItem_frames_itemUpd m hu it h
      · rw [(ecuItem_frames m it h).1, List.map_congr_left (g := id) fun f _ => ecuItem_upd it h f, List.map_id]
    rw [ih (applyItem m it) (keysUnique_of_keys m _ (keys_of_map h1 (itemUpd_key it)) hu)
      (fun x hx => hall x (List.mem_cons_of_mem _ hx)), h1, List.map_map]
    rfl

def ecuUpd : Item → List REcu → List REcu
  | .bu names, es => es ++ names.map fun n => { name := n }
  | .cm (.bu name) text, es =>
    match es.findIdx? (fun e => e.name == name) with
    | some ei => modifyAt es ei fun e => { e with comment := some text }
    | none => es
  | _, es => es

structure SameRest (m' m : RMatrix) : Prop where
  defs : m'.defs = m.defs
  attrs : m'.attrs = m.attrs
  tables : m'.tables = m.tables
  pending : m'.pending = m.pending

/-- one case per kind of statement; in each the matrix becomes `m`, `m.err` or `m` with one frame changed, and the ECUs what `ecuUpd` says -/
theorem item_rest (m : RMatrix) (it : Item) (h : (itemFrameUpdA it).isSome = true ∨ isEcuItem it = true) :
    SameRest (applyItem m it) m ∧ (applyItem m it).ecus = ecuUpd it m.ecus := by
  cases it with
  | bu names => exact ⟨⟨rfl, rfl, rfl, rfl⟩, rfl⟩
  | ba b =>
    obtain ⟨k, t, v⟩ := b
    cases t with
    | frame _ | signal _ _ =>
      simp only [applyItem, Item.frameNo, applyCore, ecuUpd]; repeat' split
      all_goals exact ⟨⟨rfl, rfl, rfl, rfl⟩, rfl⟩
    | global | ecu _ => rcases h with h | h <;> simp [itemFrameUpdA, itemFrameUpd, isEcuItem] at h
  | cm hd text =>
    cases hd with
    | bu name =>
      simp only [applyItem, Item.frameNo, applyCore, ecuUpd, ecuIdx]
      cases List.findIdx? (fun e => e.name == name) m.ecus <;> exact ⟨⟨rfl, rfl, rfl, rfl⟩, rfl⟩
    | bo _ | sg _ _ =>
      simp only [applyItem, Item.frameNo, applyCore, ecuUpd]; repeat' split
      all_goals exact ⟨⟨rfl, rfl, rfl, rfl⟩, rfl⟩
  | tx _ | val _ | valtype _ _ | grp _ | mul _ =>
    simp only [applyItem, Item.frameNo, applyCore, ecuUpd]; repeat' split
    all_goals exact ⟨⟨rfl, rfl, rfl, rfl⟩, rfl⟩
  | _ => rcases h with h | h <;> simp [itemFrameUpdA, itemFrameUpd, isEcuItem] at h

theorem items_rest (its : List Item) (m : RMatrix) (h : ∀ it ∈ its, (itemFrameUpdA it).isSome = true ∨ isEcuItem it = true) :
    SameRest (its.foldl applyItem m) m ∧ (its.foldl applyItem m).ecus = its.foldl (fun es it => ecuUpd it es) m.ecus := by
  induction its generalizing m with
  | nil => exact ⟨⟨rfl, rfl, rfl, rfl⟩, rfl⟩
  | cons it its ih =>
    obtain ⟨h1, h2⟩ := item_rest m it (h it (by simp))
    obtain ⟨i1, i2⟩ := ih (applyItem m it) (fun x hx => h x (List.mem_cons_of_mem _ hx))
    exact ⟨⟨i1.defs.trans h1.defs, i1.attrs.trans h1.attrs, i1.tables.trans h1.tables, i1.pending.trans h1.pending⟩,
      by rw [List.foldl_cons, List.foldl_cons, i2, h2]⟩

theorem ecus_after_items (its : List Item) (m : RMatrix)
    (hall : ∀ it ∈ its, (itemFrameUpd it).isSome = true ∨ isEcuItem it = true) :
    (its.foldl applyItem m).ecus = its.foldl (fun es it => ecuUpd it es) m.ecus :=
  (items_rest its m fun it hit => (hall it hit).imp_left isSomeA_of_isSome).2

theorem fold_ecu_items (its : List Item) (h : ∀ it ∈ its, isEcuItem it = true) (f : RFrame) :
    its.foldl (fun acc it => itemUpd it acc) f = f :=
  foldl_fixed_of_mem _ its f fun it hit => ecuItem_upd it (h it hit) f

def ecuCmItems (es : List WEcu) : List Item := es.filterMap fun e => e.comment.map fun c => Item.cm (.bu e.name) c

theorem ecuCmItems_eq (es : List WEcu) : (ecuCmStmts es).filterMap FileStmt.toItem = ecuCmItems es :=
  optStmts_items es _ _ fun e => by cases e.comment <;> rfl

theorem ecuCmItems_ecu (es : List WEcu) : ∀ it ∈ ecuCmItems es, isEcuItem it = true := by
  intro it h
  obtain ⟨e, _, he⟩ := List.mem_filterMap.mp h
  obtain ⟨c, _, rfl⟩ := Option.map_eq_some_iff.mp he
  rfl

theorem ecuUpd_other (it : Item) (h : (itemFrameUpdA it).isSome = true) (es : List REcu) : ecuUpd it es = es := by
  cases it with
  | cm hd text => cases hd <;> first | rfl | simp [itemFrameUpdA, itemFrameUpd] at h
  | bu names => simp [itemFrameUpdA, itemFrameUpd] at h
  | _ => rfl

def plainEcu (e : WEcu) : REcu := { name := e.name }

theorem ecucm_fold (todo done : List WEcu) (es : List REcu) (hs : es = done.map WEcu.expect ++ todo.map plainEcu)
    (hnd : ((done ++ todo).map (·.name)).Nodup) :
    (todo.filterMap fun e => e.comment.map fun c => Item.cm (.bu e.name) c).foldl (fun es it => ecuUpd it es) es =
      (done ++ todo).map WEcu.expect := by
  induction todo generalizing done es with
  | nil => simp [hs]
  | cons e rest ih =>
    cases hc : e.comment with
    | none =>
      simp only [List.filterMap_cons, hc, Option.map_none]
      have hfp : WEcu.expect e = plainEcu e := by simp [WEcu.expect, plainEcu, hc]
      have := ih (done ++ [e]) es (by rw [hs]; simp [hfp]) (by simpa using hnd)
      simpa using this
    | some c =>
      simp only [List.filterMap_cons, hc, Option.map_some, List.foldl_cons]
      have hidx : es.findIdx? (fun x => x.name == e.name) = some done.length := by
        rw [hs]
        exact findIdx_stage REcu.name WEcu.name plainEcu WEcu.expect (fun _ => rfl) (fun _ => rfl) done rest e hnd
      have hstep : ecuUpd (Item.cm (.bu e.name) c) es = modifyAt es done.length fun x => { x with comment := some c } := by
        simp only [ecuUpd, hidx]
      rw [hstep]
      have hmod : (modifyAt es done.length fun x => { x with comment := some c }) =
          (done ++ [e]).map WEcu.expect ++ rest.map plainEcu := by
        rw [hs]
        exact modifyAt_stage plainEcu WEcu.expect done rest e _ (by simp only [WEcu.expect, plainEcu, hc])
      rw [hmod]
      have := ih (done ++ [e]) _ rfl (by simpa using hnd)
      simpa using this

/-- `staticOk` extended by the comments of listed ECUs -/
def staticOkE (keys : List (Nat × Bool)) (enames : List Str) : FileStmt → Prop
  | .cm (.bu name) text => wfCmHead (.bu name) = true ∧ wfComment text = true ∧ name ∈ enames
  | s => staticOk keys s

theorem ecuUpd_names (name text : Str) (es : List REcu) : (ecuUpd (.cm (.bu name) text) es).map (·.name) = es.map (·.name) := by
  simp only [ecuUpd]
  split
  · exact modifyAt_map_of REcu.name es _ _ fun _ => rfl
  · rfl

theorem static_item (m : RMatrix) (hu : KeysUnique m) (s : FileStmt) (hs : staticOkE (m.frames.map (·.key)) (m.ecus.map (·.name)) s) :
    s.okIn m = true ∧ ∃ it, s.apply m = applyItem m it ∧ ((itemFrameUpd it).isSome = true ∨ ∃ name text, it = .cm (.bu name) text) := by
  cases s with
  | one st =>
    obtain ⟨hw, it, hit, hsome⟩ := hs
    exact ⟨hw, it, by simp [FileStmt.apply, applyStmt, hit], Or.inl hsome⟩
  | cm hd text =>
    cases hd with
    | bu name =>
      obtain ⟨hw, hc, hmem⟩ := hs
      refine ⟨?_, _, rfl, Or.inr ⟨_, _, rfl⟩⟩
      simp only [FileStmt.okIn, hw, hc, Bool.and_self, Bool.true_and, Bool.or_eq_true, Bool.not_eq_true']
      exact Or.inr (findIdx_isSome_of_mem REcu.name m.ecus name hmem)
    | bo id =>
      obtain ⟨hw, hc, hsome, n, k, hform, hk, _⟩ := hs
      refine ⟨?_, _, rfl, Or.inl hsome⟩
      rcases hform with h | ⟨_, h⟩ <;> cases h
      simp [FileStmt.okIn, hw, hc, hk]
    | sg id nm =>
      obtain ⟨hw, hc, hsome, n, k, hform, hk, hmem⟩ := hs
      refine ⟨?_, _, rfl, Or.inl hsome⟩
      rcases hform with h | ⟨_, h⟩ <;> cases h
      simp only [FileStmt.okIn, hw, hc, Bool.and_self, Bool.true_and, Bool.or_eq_true, Bool.not_eq_true']
      exact Or.inr (frameIdx_some_of_mem m hu id k hk hmem)

theorem keys_names_kept (m : RMatrix) (hu : KeysUnique m) (it : Item)
    (h : (itemFrameUpd it).isSome = true ∨ ∃ name text, it = .cm (.bu name) text) :
    (applyItem m it).frames.map (·.key) = m.frames.map (·.key) ∧ (applyItem m it).ecus.map (·.name) = m.ecus.map (·.name) := by
  rcases h with hsome | ⟨name, text, rfl⟩
  · have hFront := isSomeA_of_isSome hsome
    rw [(item_rest m it (Or.inl hFront)).2, ecuUpd_other it hFront]
    exact ⟨keys_of_map (applyItem_frames_itemUpd m hu it hsome) (itemUpd_key it), rfl⟩
  · rw [(ecuItem_frames m _ rfl).1, (item_rest m _ (Or.inr rfl)).2, ecuUpd_names]
    exact ⟨rfl, rfl⟩

theorem okFile_staticE (stmts : List FileStmt) (m : RMatrix) (hu : KeysUnique m)
    (h : ∀ s ∈ stmts, staticOkE (m.frames.map (·.key)) (m.ecus.map (·.name)) s) : okFile m stmts = true := by
  induction stmts generalizing m with
  | nil => rfl
  | cons s rest ih =>
    obtain ⟨hok, it, happ, hit⟩ := static_item m hu s (h s (by simp))
    obtain ⟨hkeys, hnames⟩ := keys_names_kept m hu it hit
    simp only [okFile, Bool.and_eq_true]
    refine ⟨hok, ?_⟩
    rw [happ]
    apply ih _ (keysUnique_of_keys m _ hkeys hu)
    intro x hx
    rw [hkeys, hnames]
    exact h x (List.mem_cons_of_mem _ hx)

theorem staticOkE_of (keys : List (Nat × Bool)) (enames : List Str) (s : FileStmt) (h : staticOk keys s) : staticOkE keys enames s := by
  cases s with
  | one st => exact h
  | cm hd text =>
    cases hd with
    | bu name =>
      obtain ⟨_, _, hsome, _⟩ := h
      simp [itemFrameUpd] at hsome
    | bo id | sg id nm => exact h

theorem okFile_static (stmts : List FileStmt) (m : RMatrix) (hu : KeysUnique m)
    (h : ∀ s ∈ stmts, staticOk (m.frames.map (·.key)) s) : okFile m stmts = true :=
  okFile_staticE stmts m hu fun s hs => staticOkE_of _ _ s (h s hs)

theorem fold_other_ecus (its : List Item) (h : ∀ it ∈ its, (itemFrameUpdA it).isSome = true) (es : List REcu) :
    its.foldl (fun es it => ecuUpd it es) es = es :=
  foldl_fixed_of_mem _ its es fun it hit => ecuUpd_other it (h it hit) es

def toRDef (d : DefLine) : RDef := { level := d.level, name := d.name, definition := d.definition }

theorem adef_fold (todo done : List DefLine) (m : RMatrix) (hm : m.defs = done.map toRDef)
    (hnd : ((done ++ todo).map fun d => (d.level, d.name)).Nodup) (hok : ∀ d ∈ todo, defineOk d.definition = true) :
    (todo.map Item.adef).foldl applyItem m = { m with defs := (done ++ todo).map toRDef } := by
  induction todo generalizing done m with
  | nil => simp [← hm]
  | cons d rest ih =>
    simp only [List.map_cons, List.foldl_cons]
    have hstep : applyItem m (.adef d) = { m with defs := (done ++ [d]).map toRDef } := by
      have hany : m.defs.any (fun x => x.level == d.level && x.name == d.name) = false := by
        rw [hm, List.any_map, List.any_eq_false]
        intro x hx hxe
        simp only [toRDef, Function.comp_apply, Bool.and_eq_true, beq_iff_eq] at hxe
        rw [List.map_append, List.nodup_append] at hnd
        exact hnd.2.2 (x.level, x.name) (List.mem_map.mpr ⟨x, hx, rfl⟩) (d.level, d.name) (by simp) (by rw [hxe.1, hxe.2])
      show addDefine m d = _
      unfold addDefine
      rw [hany, hok d (by simp)]
      simp only [Bool.false_eq_true, if_false, Bool.not_true, hm]
      simp [toRDef]
    rw [hstep]
    have := ih (done ++ [d]) { m with defs := (done ++ [d]).map toRDef } rfl (by simpa using hnd)
      (fun x hx => hok x (List.mem_cons_of_mem _ hx))
    simpa using this

theorem numericOk_map (m m' : RMatrix) (g : RDef → RDef)
    (hg : ∀ d, (g d).level = d.level ∧ (g d).name = d.name ∧ (g d).definition = d.definition) (h : m'.defs = m.defs.map g)
    (l : Level) (a v : Str) : numericOk m' l a v = numericOk m l a v := by
  unfold numericOk
  rw [h, List.find?_map]
  have hp : ((fun d : RDef => d.level == l && d.name == a) ∘ g) = fun d : RDef => d.level == l && d.name == a := by
    funext d; simp [(hg d).1, (hg d).2.1]
  rw [hp]
  cases List.find? (fun d : RDef => d.level == l && d.name == a) m.defs with
  | none => rfl
  | some d => simp only [Option.map_some, (hg d).2.2]

def defaultOk (m : RMatrix) (dd : DefDefLine) : Bool :=
  [Level.signal, Level.frame, Level.ecu, Level.global].all fun l => numericOk m l dd.name dd.value

theorem defdef_fold (dds : List DefDefLine) (m : RMatrix) (hok : ∀ dd ∈ dds, defaultOk m dd = true) :
    (dds.map fun d => Item.defdef d.name d.value).foldl applyItem m =
      { m with defs := m.defs.map fun d =>
          { d with default := dds.foldl (fun acc dd => if d.name == dd.name && d.level != .env then some dd.value else acc) d.default } } := by
  induction dds generalizing m with
  | nil => simp
  | cons dd rest ih =>
    simp only [List.map_cons, List.foldl_cons]
    have hstep : applyItem m (.defdef dd.name dd.value) =
        { m with defs := m.defs.map fun d => if d.name == dd.name && d.level != .env then { d with default := some dd.value } else d } := by
      have h := hok dd (by simp)
      unfold defaultOk at h
      show applyCore m (.defdef dd.name dd.value) = _
      simp only [applyCore, h, if_true]
    rw [hstep, ih]
    · simp only [List.map_map]
      congr 1
      apply List.map_congr_left
      intro d _
      simp only [Function.comp_apply]
      split <;> rfl
    · intro x hx
      have := hok x (List.mem_cons_of_mem _ hx)
      unfold defaultOk at this ⊢
      rw [List.all_eq_true] at this ⊢
      intro l hl
      rw [numericOk_map m _ (fun d => if d.name == dd.name && d.level != .env then { d with default := some dd.value } else d)
        (by intro d; split <;> exact ⟨rfl, rfl, rfl⟩) rfl]
      exact this l hl

theorem baGlobal_fold (kvs : List (Str × Str)) (m : RMatrix) (hnum : ∀ kv ∈ kvs, numericOk m .global kv.1 kv.2 = true) :
    (kvs.map fun kv => Item.ba ⟨kv.1, .global, kv.2⟩).foldl applyItem m =
      { m with attrs := kvs.foldl (fun a kv => assocSet a kv.1 (stripWs kv.2)) m.attrs } := by
  induction kvs generalizing m with
  | nil => simp
  | cons kv rest ih =>
    simp only [List.map_cons, List.foldl_cons]
    have hstep : applyItem m (.ba ⟨kv.1, .global, kv.2⟩) = { m with attrs := assocSet m.attrs kv.1 (stripWs kv.2) } := by
      show applyCore m (.ba ⟨kv.1, .global, kv.2⟩) = _
      simp only [applyCore, hnum kv (by simp), if_true]
    rw [hstep, ih]
    exact fun x hx => hnum x (List.mem_cons_of_mem _ hx)

theorem baEcu_inner (kvs : List (Str × Str)) (m : RMatrix) (n : Str) (i : Nat) (hidx : ecuIdx m n = some i)
    (hnum : ∀ kv ∈ kvs, numericOk m .ecu kv.1 kv.2 = true) :
    (kvs.map fun kv => Item.ba ⟨kv.1, .ecu n, kv.2⟩).foldl applyItem m =
      { m with ecus := modifyAt m.ecus i fun e => { e with attrs := kvs.foldl (fun a kv => assocSet a kv.1 (stripWs kv.2)) e.attrs } } := by
  induction kvs generalizing m with
  | nil =>
    simp only [List.map_nil, List.foldl_nil]
    rw [modifyAt_id_at _ _ _ (fun _ _ => rfl)]
  | cons kv rest ih =>
    simp only [List.map_cons, List.foldl_cons]
    have hstep : applyItem m (.ba ⟨kv.1, .ecu n, kv.2⟩) =
        { m with ecus := modifyAt m.ecus i fun e => { e with attrs := assocSet e.attrs kv.1 (stripWs kv.2) } } := by
      show applyCore m (.ba ⟨kv.1, .ecu n, kv.2⟩) = _
      simp only [applyCore, hnum kv (by simp), hidx, Bool.not_true, Bool.false_eq_true, if_false]
    rw [hstep, ih]
    · simp only [modifyAt_modifyAt]
      rfl
    · unfold ecuIdx
      simp only
      exact (findIdx_by_name REcu.name m.ecus _ (modifyAt_map_of REcu.name m.ecus i
        (fun e => { e with attrs := assocSet e.attrs kv.1 (stripWs kv.2) }) (fun _ => rfl)) n).trans hidx
    · exact fun x hx => hnum x (List.mem_cons_of_mem _ hx)

theorem baEcu_fold (todo done : List WEcu) (m : RMatrix) (hs : m.ecus = done.map WEcu.expectA ++ todo.map WEcu.expect)
    (hnd : ((done ++ todo).map (·.name)).Nodup)
    (hnum : ∀ e ∈ todo, ∀ kv ∈ e.attrs, numericOk m .ecu kv.1 kv.2 = true) :
    (todo.flatMap fun e => e.attrs.map fun kv => Item.ba ⟨kv.1, .ecu e.name, kv.2⟩).foldl applyItem m =
      { m with ecus := (done ++ todo).map WEcu.expectA } := by
  induction todo generalizing done m with
  | nil =>
    have : m.ecus = done.map WEcu.expectA := by simpa using hs
    simp only [List.flatMap_nil, List.foldl_nil, List.append_nil, ← this]
  | cons e rest ih =>
    simp only [List.flatMap_cons, List.foldl_append]
    have hidx : ecuIdx m e.name = some done.length := by
      unfold ecuIdx; rw [hs]
      exact findIdx_stage REcu.name WEcu.name WEcu.expect WEcu.expectA (fun _ => rfl) (fun _ => rfl) done rest e hnd
    rw [baEcu_inner e.attrs m e.name done.length hidx (hnum e (by simp))]
    have hmod : (modifyAt m.ecus done.length fun x => { x with attrs := e.attrs.foldl (fun a kv => assocSet a kv.1 (stripWs kv.2)) x.attrs }) =
        (done ++ [e]).map WEcu.expectA ++ rest.map WEcu.expect := by
      rw [hs]
      exact modifyAt_stage WEcu.expect WEcu.expectA done rest e _ rfl
    rw [hmod]
    have := ih (done ++ [e]) { m with ecus := (done ++ [e]).map WEcu.expectA ++ rest.map WEcu.expect } rfl (by simpa using hnd)
      (by intro x hx kv hkv; exact (hnum x (List.mem_cons_of_mem _ hx) kv hkv))
    simpa using this

theorem okFile_append (a b : List FileStmt) (m : RMatrix) :
    okFile m (a ++ b) = (okFile m a && okFile (a.foldl FileStmt.apply m) b) := by
  induction a generalizing m with
  | nil => simp [okFile]
  | cons s r ih => simp only [List.cons_append, okFile, List.foldl_cons, ih, Bool.and_assoc]

theorem okFile_ones (ss : List FileStmt) (h : ∀ s ∈ ss, ∃ st, s = .one st ∧ st.wf = true) (m : RMatrix) : okFile m ss = true := by
  induction ss generalizing m with
  | nil => rfl
  | cons s r ih =>
    obtain ⟨st, rfl, hst⟩ := h s (by simp)
    simp only [okFile, FileStmt.okIn, hst, Bool.true_and]
    exact ih (fun x hx => h x (List.mem_cons_of_mem _ hx)) _

/-- the statement sections as the reader sees them, in four groups (`stmts…` below: as the writer writes them) -/
def itemsFront (es : List WEcu) (ps : List (WFrame × (Nat × Bool))) : List Item := secItems frontSecs ps ++ ecuCmItems es

def itemsDefs (es : List WEcu) (ds : List DefLine) (dds : List DefDefLine) (ga : List (Str × Str)) : List Item :=
  ds.map Item.adef ++ (dds.map fun d => Item.defdef d.name d.value) ++
    (es.flatMap fun e => e.attrs.map fun kv => Item.ba ⟨kv.1, .ecu e.name, kv.2⟩) ++ ga.map fun kv => Item.ba ⟨kv.1, .global, kv.2⟩

def itemsBack (ps : List (WFrame × (Nat × Bool))) : List Item := secItems backSecs ps

theorem itemsFront_kind (es : List WEcu) (ps : List (WFrame × (Nat × Bool))) :
    ∀ it ∈ itemsFront es ps, (itemFrameUpd it).isSome = true ∨ isEcuItem it = true := by
  intro it hit
  rcases List.mem_append.mp hit with h | h
  · exact Or.inl (secItems_isSome frontSecs frontSecs_noBa ps it h)
  · exact Or.inr (ecuCmItems_ecu es it h)

theorem itemsBack_isSome (ps : List (WFrame × (Nat × Bool))) : ∀ it ∈ itemsBack ps, (itemFrameUpd it).isSome = true :=
  secItems_isSome backSecs backSecs_noBa ps

theorem itemsFront_ecus (es : List WEcu) (hnd : (es.map (·.name)).Nodup) (ps : List (WFrame × (Nat × Bool))) (m : RMatrix)
    (hm : m.ecus = es.map plainEcu) : ((itemsFront es ps).foldl applyItem m).ecus = es.map WEcu.expect := by
  rw [ecus_after_items _ m (itemsFront_kind es ps), hm, itemsFront, List.foldl_append,
    fold_other_ecus _ fun it hit => isSomeA_of_isSome (secItems_isSome frontSecs frontSecs_noBa ps it hit)]
  exact ecucm_fold es [] (es.map plainEcu) rfl hnd

theorem itemsDefs_fold (es : List WEcu) (hnd : (es.map (·.name)).Nodup) (ds : List DefLine) (hds : wfDefs ds = true) (dds : List DefDefLine)
    (hdds : wfDefaults ds dds = true)
    (ga : List (Str × Str)) (hga : wfAttrs (expectDefs ds dds) .global .global ga = true)
    (hea : ∀ e ∈ es, wfAttrs (expectDefs ds dds) .ecu (.ecu e.name) e.attrs = true)
    (m : RMatrix) (hdefs : m.defs = []) (hattrs : m.attrs = []) (hecus : m.ecus = es.map WEcu.expect) :
    (itemsDefs es ds dds ga).foldl applyItem m =
      { m with defs := expectDefs ds dds, ecus := es.map WEcu.expectA, attrs := attrsOf ga } := by
  simp only [wfDefs, Bool.and_eq_true, List.all_eq_true, decide_eq_true_eq] at hds
  simp only [wfDefaults, List.all_eq_true, Bool.and_eq_true] at hdds
  simp only [wfAttrs, List.all_eq_true, Bool.and_eq_true] at hga hea
  simp only [itemsDefs, List.foldl_append]
  have h1 : (ds.map Item.adef).foldl applyItem m = { m with defs := ds.map toRDef } := by
    have := adef_fold ds [] m (by simp [hdefs]) (by simpa using hds.2) (fun d hd => (hds.1 d hd).2)
    simpa using this
  have h2 : (dds.map fun d => Item.defdef d.name d.value).foldl applyItem { m with defs := ds.map toRDef } =
      { m with defs := expectDefs ds dds } := by
    rw [defdef_fold dds { m with defs := ds.map toRDef } fun dd hdd => List.all_eq_true.mpr (hdds dd hdd).2]
    simp only [List.map_map, expectDefs]
    congr 1
  have h3 : (es.flatMap fun e => e.attrs.map fun kv => Item.ba ⟨kv.1, .ecu e.name, kv.2⟩).foldl applyItem
      { m with defs := expectDefs ds dds } = { m with defs := expectDefs ds dds, ecus := es.map WEcu.expectA } := by
    have := baEcu_fold es [] { m with defs := expectDefs ds dds } (by simp [hecus]) (by simpa using hnd)
      fun e he kv hkv => (hea e he kv hkv).2
    simpa using this
  have h4 : (ga.map fun kv => Item.ba ⟨kv.1, .global, kv.2⟩).foldl applyItem
      { m with defs := expectDefs ds dds, ecus := es.map WEcu.expectA } =
      { m with defs := expectDefs ds dds, ecus := es.map WEcu.expectA, attrs := attrsOf ga } := by
    rw [baGlobal_fold ga]
    · simp [attrsOf, hattrs]
    · exact fun kv hkv => (hga kv hkv).2
  rw [h1, h2, h3, h4]

/-- (grouped as `writeCoreF` nests them) -/
def stmtsFront (es : List WEcu) (fs : List WFrame) : List FileStmt :=
  fs.flatMap WFrame.txStmts ++ fs.flatMap WFrame.cmStmts ++ fs.flatMap WFrame.sigCmStmts ++ ecuCmStmts es

def stmtsDefs (es : List WEcu) (ds : List DefLine) (dds : List DefDefLine) (ga : List (Str × Str)) : List FileStmt :=
  defStmts ds ++ defdefStmts dds ++ ecuBaStmts es ++ globalBaStmts ga

def stmtsBack (fs : List WFrame) : List FileStmt :=
  fs.flatMap WFrame.valStmts ++ fs.flatMap WFrame.valtypeStmts ++ fs.flatMap WFrame.grpStmts ++ fs.flatMap WFrame.mulStmts

theorem stmtsFront_items (es : List WEcu) (ps : List (WFrame × (Nat × Bool))) :
    (stmtsFront es (ps.map (·.1))).filterMap FileStmt.toItem = itemsFront es ps := by
  simp only [stmtsFront, itemsFront, secItems, frontSecs, List.flatMap_cons, List.flatMap_nil, List.append_nil, List.filterMap_append,
    List.filterMap_flatMap, List.flatMap_map, txItems_eq, cmItems_eq, sigCmItems_eq, ecuCmItems_eq, List.append_assoc]

theorem stmtsBack_items (ps : List (WFrame × (Nat × Bool))) :
    (stmtsBack (ps.map (·.1))).filterMap FileStmt.toItem = itemsBack ps := by
  simp only [stmtsBack, itemsBack, secItems, backSecs, List.flatMap_cons, List.flatMap_nil, List.append_nil, List.filterMap_append,
    List.filterMap_flatMap, List.flatMap_map, valItems_eq, valtypeItems_eq, grpItems_eq, mulItems_eq, List.append_assoc]

theorem stmtsDefs_items (es : List WEcu) (ds : List DefLine) (dds : List DefDefLine) (ga : List (Str × Str)) :
    (stmtsDefs es ds dds ga).filterMap FileStmt.toItem = itemsDefs es ds dds ga := by
  simp only [stmtsDefs, itemsDefs, List.filterMap_append, defStmts, defdefStmts, ecuBaStmts, globalBaStmts, List.filterMap_flatMap]
  rw [oneStmts_items ds _ Item.adef fun _ => rfl, oneStmts_items dds _ (fun d => Item.defdef d.name d.value) fun _ => rfl,
    oneStmts_items ga _ (fun kv => Item.ba ⟨kv.1, .global, kv.2⟩) fun _ => rfl]
  congr 3; funext e
  exact oneStmts_items e.attrs _ _ fun _ => rfl
theorem stmtsDefs_ones (es : List WEcu) (ds : List DefLine) (hds : wfDefs ds = true) (dds : List DefDefLine) (hdds : wfDefaults ds dds = true)
    (D : List RDef) (ga : List (Str × Str)) (hga : wfAttrs D .global .global ga = true)
    (hea : ∀ e ∈ es, wfAttrs D .ecu (.ecu e.name) e.attrs = true) :
    ∀ s ∈ stmtsDefs es ds dds ga, ∃ st, s = .one st ∧ st.wf = true := by
  intro s hs
  simp only [wfDefs, wfDefaults, wfAttrs, Bool.and_eq_true, List.all_eq_true, decide_eq_true_eq] at hds hdds hga hea
  simp only [stmtsDefs, defStmts, defdefStmts, ecuBaStmts, globalBaStmts, List.mem_append, List.mem_map, List.mem_flatMap] at hs
  rcases hs with ((⟨d, hd, rfl⟩ | ⟨d, hd, rfl⟩) | ⟨e, he, kv, hkv, rfl⟩) | ⟨kv, hkv, rfl⟩
  · exact ⟨_, rfl, (hds.1 d hd).1⟩
  · exact ⟨_, rfl, (hdds d hd).1⟩
  · exact ⟨_, rfl, (hea e he kv hkv).1⟩
  · exact ⟨_, rfl, (hga kv hkv).1⟩

def isFrameBa : Item → Bool
  | .ba ⟨_, .frame _, _⟩ => true
  | .ba ⟨_, .signal _ _, _⟩ => true
  | _ => false

theorem isFrameBa_some (it : Item) (h : isFrameBa it = true) : (itemFrameUpdA it).isSome = true := by
  cases it with
  | ba b =>
    obtain ⟨k, t, v⟩ := b
    cases t <;> first | rfl | simp [isFrameBa] at h
  | _ => simp [isFrameBa] at h

theorem keysUnique_applyItem (m : RMatrix) (hu : KeysUnique m) (it : Item) (hs : (itemFrameUpdA it).isSome = true)
    (hok : baOk m.defs it = true) : KeysUnique (applyItem m it) :=
  keysUnique_of_keys m _ (keys_of_map (applyItem_frames_of_baOk m hu it hs hok) (itemUpdA_key it)) hu

theorem ba_fold (its : List Item) (m : RMatrix) (hu : KeysUnique m) (hall : ∀ it ∈ its, isFrameBa it = true ∧ baOk m.defs it = true) :
    (its.foldl applyItem m).frames = m.frames.map (fun f => its.foldl (fun acc it => itemUpdA it acc) f) ∧
    (its.foldl applyItem m).defs = m.defs ∧ (its.foldl applyItem m).ecus = m.ecus ∧ (its.foldl applyItem m).attrs = m.attrs := by
  induction its generalizing m with
  | nil => simp
  | cons it its ih =>
    simp only [List.foldl_cons]
    obtain ⟨hfb, hok⟩ := hall it (by simp)
    have hsome := isFrameBa_some it hfb
    have h1 := applyItem_frames_of_baOk m hu it hsome hok
    obtain ⟨hrest, hecus⟩ := item_rest m it (Or.inl hsome)
    rw [ecuUpd_other it hsome] at hecus
    obtain ⟨ihFrames, ihDefs, ihEcus, ihAttrs⟩ := ih (applyItem m it) (keysUnique_applyItem m hu it hsome hok) (by
      intro x hx
      rw [hrest.defs]
      exact hall x (List.mem_cons_of_mem _ hx))
    refine ⟨?_, ihDefs.trans hrest.defs, ihEcus.trans hecus, ihAttrs.trans hrest.attrs⟩
    rw [ihFrames, h1, List.map_map]
    rfl

theorem itemsBack_isCItem (ps : List (WFrame × (Nat × Bool))) : ∀ it ∈ itemsBack ps, isCItem it = true := by
  intro it hit
  obtain ⟨sec, hsec, p, _, h⟩ := mem_secItems.mp hit
  simp only [backSecs, List.mem_cons, List.not_mem_nil, or_false] at hsec
  rcases hsec with rfl | rfl | rfl | rfl
  · obtain ⟨s, _, hs⟩ := List.mem_filterMap.mp h
    obtain rfl := Option.some.inj (Option.ite_none_left_eq_some.mp hs).2
    rfl
  · obtain ⟨s, _, hs⟩ := List.mem_filterMap.mp h
    obtain rfl := Option.some.inj (Option.ite_none_right_eq_some.mp hs).2
    rfl
  · obtain ⟨g, _, rfl⟩ := List.mem_map.mp h
    rfl
  · obtain ⟨s, _, hs⟩ := List.mem_filterMap.mp h
    obtain ⟨mx, _, rfl⟩ := Option.map_eq_some_iff.mp hs
    rfl

def itemsAttrs (ps : List (WFrame × (Nat × Bool))) : List Item := secItems attrSecs ps

theorem per_frame (es : List WEcu) (ps : List (WFrame × (Nat × Bool))) (hwf : ∀ p ∈ ps, p.1.wf p.2 = true)
    (hdist : ps.Pairwise fun p q => p.2 ≠ q.2) (p : WFrame × (Nat × Bool)) (hp : p ∈ ps) :
    (itemsBack ps).foldl (fun acc it => itemUpd it acc)
      ((itemsAttrs ps).foldl (fun acc it => itemUpdA it acc)
        ((itemsFront es ps).foldl (fun acc it => itemUpd it acc) (frameOfBlock p.1.block p.2))) = p.1.expectA p.2 := by
  obtain ⟨f, k⟩ := p
  have hnum := (wf_unpack (hwf (f, k) hp)).number
  have hnames := (wf_unpack (hwf (f, k) hp)).names
  have hnumAll : ∀ q ∈ ps, keyOfCompound q.1.bo.id = some q.2 := fun q hq => (wf_unpack (hwf q hq)).number
  have hFront : (itemsFront es ps).foldl (fun acc it => itemUpd it acc) (frameOfBlock f.block k) = frontFrame f k := by
    rw [itemsFront, List.foldl_append,
      secs_fold itemUpd_other itemUpd_key frontSecs (fun sec hs f it hit => (frontSecs_noBa sec hs f it hit).1) ps hnumAll hdist (f, k) hp _ rfl,
      own_front f k (hwf (f, k) hp), fold_ecu_items _ (ecuCmItems_ecu es)]
  have hAttrs : (itemsAttrs ps).foldl (fun acc it => itemUpdA it acc) (frontFrame f k) = ovl (attrsOf f.attrs) (sigAttrsOf f) (frontFrame f k) := by
    rw [itemsAttrs, secs_fold itemUpdA_other itemUpdA_key attrSecs (fun sec hs f it hit => (attrSecs_sec sec hs f it hit).1) ps hnumAll hdist (f, k) hp _ rfl]
    simp only [attrSecs, List.flatMap_cons, List.flatMap_nil, List.append_nil, List.foldl_append]
    unfold baItems sigBaItems
    rw [ba_section f.bo.id f.attrs (frontFrame f k) hnum, sigba_section f.bo.id f.sigs [] _ hnum rfl hnames]
    simp only [ovl, frontFrame, attrsOf, List.nil_append, List.map_map]
    congr 1
    apply List.map_congr_left
    intro s hs
    simp only [Function.comp_apply, cmSig, atSig, rereadSg_name, sigAttrsOf_mem f hnames s hs, attrsOf]
  -- the sections behind do not look at attributes
  have hBack : (itemsBack ps).foldl (fun acc it => itemUpd it acc) (frontFrame f k) = f.expect k := by
    rw [itemsBack, secs_fold itemUpd_other itemUpd_key backSecs (fun sec hs f it hit => (backSecs_noBa sec hs f it hit).1) ps hnumAll hdist (f, k) hp _ rfl,
      own_back f k (hwf (f, k) hp) _ rfl rfl rfl]
    simp only [frontFrame, frameOfBlock, WFrame.block, WFrame.expect, List.any_map, Function.comp_def]
    rfl
  rw [hFront, hAttrs, fold_ovl _ (itemsBack_isCItem ps), hBack]
  simp only [ovl, WFrame.expectA, WFrame.expect, List.map_map]
  congr 1
  apply List.map_congr_left
  intro s hs
  simp only [Function.comp_apply, rereadSg_name, sigAttrsOf_mem f hnames s hs]

def stmtsAttrs (fs : List WFrame) : List FileStmt := fs.flatMap WFrame.baStmts ++ fs.flatMap WFrame.sigBaStmts

theorem stmtsAttrs_items (ps : List (WFrame × (Nat × Bool))) : (stmtsAttrs (ps.map (·.1))).filterMap FileStmt.toItem = itemsAttrs ps := by
  simp only [stmtsAttrs, itemsAttrs, secItems, attrSecs, List.flatMap_cons, List.flatMap_nil, List.append_nil, List.filterMap_append,
    List.filterMap_flatMap, List.flatMap_map, baItems_eq, sigBaItems_eq]

/-- the frame the statement names exists, and the signal where it must -/
def fine (KS : List ((Nat × Bool) × List Str)) (it : Item) : Prop :=
  ∃ n g, itemFrameUpdA it = some (n, g) ∧ ∃ k names, keyOfCompound n = some k ∧ (k, names) ∈ KS ∧
    ∀ name, needsSig it = some name → name ∈ names

/-- pairwise different identifiers, and frame by frame the identifier and signal names `KS` -/
def Shaped (KS : List ((Nat × Bool) × List Str)) (m : RMatrix) : Prop := KeysUnique m ∧ m.frames.map sigShape = KS

theorem fine_errors (KS : List ((Nat × Bool) × List Str)) (m : RMatrix) (hP : Shaped KS m) (it : Item) (hf : fine KS it)
    (hok : baOk m.defs it = true) : (applyItem m it).errors = m.errors := by
  obtain ⟨n, g, hupd, k, names, hk, hmem, hsig⟩ := hf
  obtain ⟨hu, hshape⟩ := hP
  rw [← hshape] at hmem
  obtain ⟨f, hfm, hfs⟩ := List.mem_map.mp hmem
  obtain ⟨i, hget⟩ := List.getElem?_of_mem hfm
  obtain ⟨hkey, hnames⟩ := Prod.mk.inj hfs
  have hfi : frameIdx m n = some i := lookup_by_identifier m hu i f n hget (by rw [hk, hkey])
  exact (frameItem_effect m hu it n g hupd hok).2 i f hfi hget fun name h =>
    Option.isSome_iff_ne_none.mp (findIdx_isSome_of_mem (fun s : RSig => s.sg.name) f.sigs name (by rw [hnames]; exact hsig name h))

theorem fine_fold (KS : List ((Nat × Bool) × List Str)) (its : List Item) (m : RMatrix) (hP : Shaped KS m)
    (hall : ∀ it ∈ its, (fine KS it ∧ baOk m.defs it = true) ∨ isEcuItem it = true) :
    (its.foldl applyItem m).errors = m.errors ∧ Shaped KS (its.foldl applyItem m) := by
  induction its generalizing m with
  | nil => exact ⟨rfl, hP⟩
  | cons it its ih =>
    simp only [List.foldl_cons]
    have hstep : (applyItem m it).errors = m.errors ∧ Shaped KS (applyItem m it) ∧ (applyItem m it).defs = m.defs := by
      rcases hall it (by simp) with ⟨hf, hok⟩ | hecu
      · have hsome : (itemFrameUpdA it).isSome = true := by
          obtain ⟨n, g, hupd, _⟩ := hf
          rw [hupd]; rfl
        have hfr := applyItem_frames_of_baOk m hP.1 it hsome hok
        refine ⟨fine_errors KS m hP it hf hok, ⟨keysUnique_applyItem m hP.1 it hsome hok, ?_⟩, (item_rest m it (Or.inl hsome)).1.defs⟩
        · rw [hfr, List.map_map, ← hP.2]
          exact List.map_congr_left fun f _ => itemUpdA_shape it f
      · obtain ⟨hfr, he⟩ := ecuItem_frames m it hecu
        have hshaped : Shaped KS (applyItem m it) := ⟨keysUnique_of_keys m _ (by rw [hfr]) hP.1, by rw [hfr]; exact hP.2⟩
        exact ⟨he, hshaped, (item_rest m it (Or.inr hecu)).1.defs⟩
    have := ih (applyItem m it) hstep.2.1 (by
      intro x hx
      rw [hstep.2.2]
      exact hall x (List.mem_cons_of_mem _ hx))
    exact ⟨this.1.trans hstep.1, this.2⟩

def shapesOf (ps : List (WFrame × (Nat × Bool))) : List ((Nat × Bool) × List Str) := ps.map fun p => (p.2, p.1.sigs.map (·.sg.name))

theorem secItems_fine (secs : List (WFrame → List Item)) (hs : ∀ sec ∈ secs, IsSection sec) (ps : List (WFrame × (Nat × Bool)))
    (hnum : ∀ q ∈ ps, keyOfCompound q.1.bo.id = some q.2) : ∀ it ∈ secItems secs ps, fine (shapesOf ps) it := by
  intro it hit
  obtain ⟨sec, hsec, q, hq, h⟩ := mem_secItems.mp hit
  obtain ⟨⟨g, hg⟩, hn⟩ := hs sec hsec q.1 it h
  exact ⟨_, g, hg, q.2, _, hnum q hq, List.mem_map.mpr ⟨q, hq, rfl⟩, hn⟩

theorem secItems_fine_noBa (secs : List (WFrame → List Item)) (hs : ∀ sec ∈ secs, IsSectionNoBa sec) (ps : List (WFrame × (Nat × Bool)))
    (hnum : ∀ q ∈ ps, keyOfCompound q.1.bo.id = some q.2) (D : List RDef) :
    ∀ it ∈ secItems secs ps, fine (shapesOf ps) it ∧ baOk D it = true :=
  fun it hit => ⟨secItems_fine secs (fun sec h => (hs sec h).isSection) ps hnum it hit, baOk_of_isSome D it (secItems_isSome secs hs ps it hit)⟩

end CanVerif.Dbc.FileProofs
