import CanVerif.Spec.DbcRT
import CanVerif.Proofs.DbcLines
import CanVerif.Proofs.DbcLex
/-!
The frame section as the writer emits it (C05): its `SG_` and `BO_` lines are the lines of Proofs/DbcLex.lean with single
blanks and `format_float` numbers, so the statement readers return what was written (numbers as `reread`); the line reader
rebuilds the frames; writing what was read gives the same text.
-/
namespace CanVerif.Dbc
open CanVerif CanVerif.Num

/-- the part of a rendered `SG_` line from the colon on: `sgTailLex` with single blanks and `canonNums` (`sgTail_eq_lex`) -/
def sgTail (s : SgLine) : Str :=
  ':' :: ' ' :: (natDigits s.start ++ '|' :: (natDigits s.size ++ '@' :: (if s.little then '1' else '0') ::
    (if s.signed then '-' else '+') :: ' ' :: '(' :: (formatFloat s.factor ++ ',' :: (formatFloat s.offset ++
    ')' :: ' ' :: '[' :: (formatFloat s.min ++ '|' :: (formatFloat s.max ++ ']' :: ' ' :: '"' :: (s.unit ++
    '"' :: ' ' :: joinComma s.receivers)))))))

theorem renderSg_eq (s : SgLine) :
    renderSg s = ' ' :: 'S' :: 'G' :: '_' :: ' ' :: (s.name ++ ' ' :: (renderTag s.tag ++ sgTail s)) := by
  unfold renderSg sgTail
  lit_chars
  simp only [List.append_assoc, List.cons_append, List.nil_append]

def canonNums (s : SgLine) : SgNums := ⟨formatFloat s.factor, formatFloat s.offset, formatFloat s.min, formatFloat s.max⟩

theorem sgTail_eq_lex (s : SgLine) : sgTail s = sgTailLex {} (canonNums s) s := by
  unfold sgTail sgTailLex
  rw [joinCommaSp_zero]
  simp only [sps, List.replicate, List.cons_append, List.nil_append, canonNums]

theorem renderSg_lex_default (s : SgLine) : renderSg s = renderSgLex {} (canonNums s) s := by
  rw [renderSg_eq, renderSgLex_eq, sgTail_eq_lex]
  cases s.tag with
  | none | val k => rfl
  | muxer | valMuxer k => unfold renderTag; lit_chars; simp [lexTag, sps]

theorem lexOk_canon (s : SgLine) : lexOk {} (canonNums s) s.tag = true := by
  have hv := fun d => validNum_iff.mpr ⟨_, NumTok.formatFloat d⟩
  simp only [lexOk, canonNums, hv, Bool.and_true]
  cases s.tag <;> rfl

theorem LastOK.sgTail (s : SgLine) (hne : s.receivers ≠ []) (hr : ∀ r ∈ s.receivers, isIdent r = true) :
    LastOK (sgTail s) :=
  sgTail_eq_lex s ▸ LastOK.sgTailLex _ _ s hne hr

theorem stripWs_renderSg (s : SgLine) (hne : s.receivers ≠ []) (hr : ∀ r ∈ s.receivers, isIdent r = true) :
    stripWs (renderSg s) = 'S' :: 'G' :: '_' :: ' ' :: (s.name ++ ' ' :: (renderTag s.tag ++ sgTail s)) := by
  rw [renderSg_eq, stripWs_drop_ws ' ' _ (by decide)]
  exact stripWs_id_of _ 'S' rfl (by decide) (LastOK.cons _ (LastOK.cons _ (LastOK.cons _ (LastOK.cons _
    (LastOK.append _ (LastOK.cons _ (LastOK.append _ (LastOK.sgTail s hne hr))))))))

theorem withNums_canon (s : SgLine) : withNums (canonNums s) s = rereadSg s := by
  simp only [withNums, rereadSg, reread, canonNums]

theorem parseSg_renderSg (s : SgLine) (h : wfSg s = true) :
    parseSg (stripWs (renderSg s)) = some (rereadSg s) := by
  rw [renderSg_lex_default, parseSg_renderSgLex _ _ s h (lexOk_canon s), withNums_canon]

theorem renderBo_eq (b : BoLine) :
    renderBo b = 'B' :: 'O' :: '_' :: ' ' :: (natDigits b.id ++ ' ' :: (b.name ++ ':' :: ' ' ::
      (natDigits b.size ++ ' ' :: b.transmitter))) := by
  unfold renderBo
  lit_chars
  simp only [List.append_assoc, List.cons_append, List.nil_append]

theorem renderBo_lex_default (b : BoLine) : renderBo b = renderBoLex {} b := by
  rw [renderBo_eq, renderBoLex_eq]
  rfl

theorem stripWs_renderBo (b : BoLine) (h : wfBo b = true) : stripWs (renderBo b) = renderBo b := by
  rw [renderBo_lex_default, stripWs_renderBoLex {} b h]

theorem parseBo_renderBo (b : BoLine) (h : wfBo b = true) : parseBo (stripWs (renderBo b)) = some b := by
  rw [renderBo_lex_default, parseBo_renderBoLex {} b h rfl]

theorem classify_of_sg (l d : Str) (h : stripWs l = 'S' :: 'G' :: '_' :: ' ' :: d) : classify l = .sg := by
  simp [classify, h, lit_bo, lit_sg, startsWith]

theorem classify_of_bo (l d : Str) (h : stripWs l = 'B' :: 'O' :: '_' :: ' ' :: d) : classify l = .bo := by
  simp [classify, h, lit_bo, startsWith]

theorem classify_renderSg (s : SgLine) (h : wfSg s = true) : classify (renderSg s) = .sg := by
  obtain ⟨_, _, h3, h4⟩ := wfSg_unpack h
  exact classify_of_sg _ _ (stripWs_renderSg s h3 h4)

theorem classify_renderBo (b : BoLine) (h : wfBo b = true) : classify (renderBo b) = .bo := by
  apply classify_of_bo _ _ (by rw [stripWs_renderBo b h, renderBo_eq])

theorem stepLine_nil (st : List Block) : stepLine framesReader st [] = st := by
  simp [stepLine, stripWs]

theorem stepLine_renderBo (st : List Block) (b : BoLine) (h : wfBo b = true) :
    stepLine framesReader st (renderBo b) = st ++ [⟨b, []⟩] := by
  have he : (stripWs (renderBo b)).isEmpty = false := by
    rw [stripWs_renderBo b h, renderBo_eq]; rfl
  unfold stepLine
  simp only [he, classify_renderBo b h, framesReader, parseBo_renderBo b h]
  simp

theorem stepLine_renderSg (st : List Block) (f : Block) (s : SgLine) (h : wfSg s = true) :
    stepLine framesReader (st ++ [f]) (renderSg s) = st ++ [{ f with sigs := f.sigs ++ [rereadSg s] }] := by
  obtain ⟨_, _, h3, h4⟩ := wfSg_unpack h
  have he : (stripWs (renderSg s)).isEmpty = false := by
    rw [stripWs_renderSg s h3 h4]; rfl
  unfold stepLine
  simp only [he, classify_renderSg s h, framesReader, parseSg_renderSg s h]
  simp

theorem loadLines_sigs (st : List Block) (bo : BoLine) (acc sigs : List SgLine) (h : ∀ s ∈ sigs, wfSg s = true) :
    loadLines framesReader (st ++ [⟨bo, acc⟩]) (sigs.map renderSg) = st ++ [⟨bo, acc ++ sigs.map rereadSg⟩] := by
  induction sigs generalizing acc with
  | nil => simp [loadLines]
  | cons s sigs ih =>
    rw [List.map_cons, loadLines_cons, stepLine_renderSg st _ s (h s (by simp)),
      ih _ (fun x hx => h x (List.mem_cons_of_mem _ hx))]
    simp

theorem wfBlock_unpack {b : Block} (h : wfBlock b = true) : wfBo b.bo = true ∧ ∀ s ∈ b.sigs, wfSg s = true := by
  simpa [wfBlock] using h

theorem loadLines_block (st : List Block) (b : Block) (h : wfBlock b = true) :
    loadLines framesReader st (writeBlock b) = st ++ [rereadBlock b] := by
  obtain ⟨h1, h2⟩ := wfBlock_unpack h
  rw [writeBlock, loadLines_cons, stepLine_renderBo st b.bo h1, loadLines_append, loadLines_sigs st b.bo [] b.sigs h2,
    loadLines_cons, stepLine_nil]
  rfl

theorem loadLines_frames (st : List Block) (bs : List Block) (h : ∀ b ∈ bs, wfBlock b = true) :
    loadLines framesReader st (writeFrames bs) = st ++ bs.map rereadBlock := by
  induction bs generalizing st with
  | nil => simp [loadLines, writeFrames]
  | cons b bs ih =>
    rw [writeFrames, List.flatMap_cons, loadLines_append, loadLines_block st b (h b (by simp))]
    rw [← writeFrames, ih _ (fun x hx => h x (List.mem_cons_of_mem _ hx))]
    simp

theorem formatFloat_reread (d : Dec) : formatFloat (reread d) = formatFloat d := by
  rcases reread_cases' d with h | ⟨h1, h2, h⟩
  · rw [h]
  · rw [h]
    obtain ⟨neg, c, e⟩ := d
    simp only at h1 h2 ⊢
    subst h1
    by_cases hc : c < 10
    · -- `c < 10` and `c % 10 = 0`
      have : c = 0 := by omega
      subst this
      cases neg <;> decide
    · -- `c = 10 k`: `k` with exponent 0 is rendered as `k`, `10 k` with exponent -1 as `k.0`, which loses the `.0`
      have hd : natDigits c = natDigits (c / 10) ++ ['0'] := by rw [natDigits_ge c hc, h2]; rfl
      have h1 : decToStr ⟨neg, c, -1⟩ = signStr neg ++ natDigits (c / 10) ++ ['.', '0'] :=
        decToStr_split neg c _ ['0'] hd (natDigits_ne_nil _)
      have h0 : decToStr ⟨neg, c / 10, 0⟩ = signStr neg ++ natDigits (c / 10) ++ [] :=
        decToStr_split neg (c / 10) _ [] (List.append_nil _).symm (natDigits_ne_nil _)
      rw [formatFloat_eq, formatFloat_eq, h1, h0, stripDot0_dot0, List.append_nil,
        stripDot0_of_no_dot (signDigits_ne rfl (by decide) neg (natDigits_allDig _))]

theorem decEq_reread (d : Dec) : SpecRT.decEq (reread d) d = true := by
  rcases reread_cases' d with h | ⟨h1, h2, h⟩
  · rw [h]; simp [SpecRT.decEq]
  · rw [h]
    obtain ⟨neg, c, e⟩ := d
    simp only at h1 h2 ⊢
    subst h1
    have hm : min (0 : Int) (-1) = -1 := by decide
    have e1 : ((0 : Int) - -1).toNat = 1 := by decide
    have e2 : ((-1 : Int) - -1).toNat = 0 := by decide
    unfold SpecRT.decEq
    simp only [hm, e1, e2]
    have : c / 10 * 10 ^ 1 = c * 10 ^ 0 := by omega
    simp [this]

theorem sgSame_rereadSg (s : SgLine) : SpecRT.sgSame (rereadSg s) s = true := by
  simp [SpecRT.sgSame, rereadSg, decEq_reread]

theorem sgListSame_reread (ss : List SgLine) : SpecRT.sgListSame (ss.map rereadSg) ss = true := by
  induction ss with
  | nil => rfl
  | cons s ss ih => simp [SpecRT.sgListSame, sgSame_rereadSg, ih]

theorem blocksSame_reread (bs : List Block) : SpecRT.blocksSame (bs.map rereadBlock) bs = true := by
  induction bs with
  | nil => rfl
  | cons b bs ih => simp [SpecRT.blocksSame, SpecRT.blockSame, rereadBlock, sgListSame_reread, ih]

theorem renderSg_rereadSg (s : SgLine) : renderSg (rereadSg s) = renderSg s := by
  unfold renderSg rereadSg
  simp only [formatFloat_reread]

theorem writeBlock_reread (b : Block) : writeBlock (rereadBlock b) = writeBlock b := by
  unfold writeBlock rereadBlock
  simp only [List.map_map, Function.comp_def, renderSg_rereadSg]

theorem writeFrames_reread (bs : List Block) : writeFrames (bs.map rereadBlock) = writeFrames bs := by
  induction bs with
  | nil => rfl
  | cons b bs ih =>
    simp only [writeFrames, List.map_cons, List.flatMap_cons] at ih ⊢
    rw [writeBlock_reread, ih]

theorem mem_writeFrames {bs : List Block} {l : Str} (h : l ∈ writeFrames bs) :
    ∃ b ∈ bs, l = renderBo b.bo ∨ (∃ s ∈ b.sigs, renderSg s = l) ∨ l = [] := by
  simpa only [writeFrames, List.mem_flatMap, writeBlock, List.mem_cons, List.mem_append, List.mem_map,
    List.mem_nil_iff, or_false] using h

theorem writeFrames_line_accepted (bs : List Block) (h : ∀ b ∈ bs, wfBlock b = true) (l : Str) (hl : l ∈ writeFrames bs) :
    stripWs l = [] ∨ (classify l ≠ .unknown ∧ framesReader.matchesPattern (classify l) l = true) := by
  obtain ⟨b, hb, h1 | ⟨s, hs, h1⟩ | h1⟩ := mem_writeFrames hl
  · have hw := (wfBlock_unpack (h b hb)).1
    rw [h1, classify_renderBo _ hw]
    refine Or.inr ⟨by decide, ?_⟩
    simp only [framesReader, parseBo_renderBo _ hw, Option.isSome_some]
  · have hw := (wfBlock_unpack (h b hb)).2 s hs
    rw [← h1, classify_renderSg _ hw]
    refine Or.inr ⟨by decide, ?_⟩
    simp only [framesReader, parseSg_renderSg _ hw, Option.isSome_some]
  · rw [h1]; exact Or.inl rfl

end CanVerif.Dbc
