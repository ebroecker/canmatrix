import CanVerif.Model.DbcFile
/-! `assocSet` (Model/DbcFile.lean: `d[k] = v` on an insertion-ordered dictionary): on keys that are not there yet it appends; its keys, and the
entry it leaves -/
namespace CanVerif.Dbc.FileProofs
open CanVerif CanVerif.Dbc

theorem assocSet_new {α β} [BEq α] [LawfulBEq α] (acc : List (α × β)) (k : α) (v : β) (h : k ∉ acc.map (·.1)) :
    assocSet acc k v = acc ++ [(k, v)] := by
  induction acc with
  | nil => rfl
  | cons a r ih =>
    simp only [List.map_cons, List.mem_cons, not_or] at h
    simp only [assocSet, beq_eq_false_iff_ne.mpr (Ne.symm h.1), Bool.false_eq_true, if_false, List.cons_append, ih h.2]

theorem assocSet_fold_gen {α β} [BEq α] [LawfulBEq α] (es acc : List (α × β)) (h : ((acc ++ es).map (·.1)).Nodup) :
    es.foldl (fun acc (e : α × β) => assocSet acc e.1 e.2) acc = acc ++ es := by
  induction es generalizing acc with
  | nil => simp
  | cons e es ih =>
    have hn : ((acc.map (·.1)) ++ e.1 :: es.map (·.1)).Nodup := by simpa using h
    have hnew : assocSet acc e.1 e.2 = acc ++ [e] :=
      assocSet_new acc e.1 e.2 fun hm => (List.nodup_append.mp hn).2.2 _ hm _ List.mem_cons_self rfl
    rw [List.foldl_cons, hnew, ih (acc ++ [e]) (by simpa using h)]
    simp

theorem assocSet_keys {α β} [BEq α] [LawfulBEq α] (l : List (α × β)) (k : α) (v : β) :
    (assocSet l k v).map (·.1) = if k ∈ l.map (·.1) then l.map (·.1) else l.map (·.1) ++ [k] := by
  induction l with
  | nil => rfl
  | cons a r ih =>
    unfold assocSet
    by_cases h : a.1 = k
    · simp [h]
    · have hk : ¬ k = a.1 := fun e => h e.symm
      simp only [beq_iff_eq, h, if_false, List.map_cons, ih, List.mem_cons, hk, false_or]
      split <;> rfl

theorem find_assocSet {α β} [BEq α] [LawfulBEq α] (l : List (α × β)) (k : α) (v : β) :
    (assocSet l k v).find? (·.1 == k) = some (k, v) := by
  induction l with
  | nil => simp [assocSet]
  | cons a r ih =>
    unfold assocSet
    by_cases h : a.1 = k
    · simp [h]
    · simp [h, ih]

end CanVerif.Dbc.FileProofs
