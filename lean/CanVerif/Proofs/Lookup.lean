import CanVerif.Model.Lookup
/-!
# Frame lookups over edit histories (C10): the memo invariant and what an operation can touch

The memoised `lookupId` changes nothing but the memo of its matrix and keeps every memo entry
pointing into that matrix's own frame list (`MatInv`).  Every operation of the model except the two
edits of a frame object is a sequence of three kinds of moves (`Moves`): replace a matrix it targets
by one that keeps its memo invariant, allocate objects at the end of the heap, add a matrix.  That
all matrices keep the invariant, that matrices not targeted stay as they are and that existing
objects stay where they are is shown once, for these moves.
-/
namespace CanVerif.C10
open CanVerif

/-- memo invariant of one matrix: every memo entry points to a frame currently in that matrix -/
def MatInv (x : Mat) : Prop := ∀ e ∈ x.memo, e.2 ∈ x.frames

/-- invariant of the world -/
def Inv (w : World) : Prop := ∀ x ∈ w.mats, MatInv x

/-- the matrices an operation may modify (its own frame list or memo) -/
def targets : LOp → List Nat
  | .addFrame m _ | .appendFrame m _ | .removeFrame m _ | .delFrame m _ | .delFrameByName m _
  | .addEcu m | .byId m _ _ => [m]
  | .copyFrame s d _ _ => [s, d]
  | .merge d s => [d, s]
  | _ => []

end CanVerif.C10

namespace CanVerif.LookupProofs
open CanVerif C10

theorem lookupId_frames_eq (w : World) (x : Mat) (id : Nat) (ext : Bool) :
    (lookupId w x id ext).2.frames = x.frames := by
  unfold lookupId
  split
  · split
    · rfl
    · split <;> rfl
  · split <;> rfl

/-- the answer is a validated memo entry or what the scan of the frame list finds -/
theorem lookupId_fst (w : World) (x : Mat) (id : Nat) (ext : Bool) :
    (∃ e ∈ x.memo, (lookupId w x id ext).1 = some e.2 ∧ carriesId w id ext e.2 = true) ∨
    (lookupId w x id ext).1 = x.frames.find? (carriesId w id ext) := by
  unfold lookupId
  split
  · rename_i h0 hm
    split
    · rename_i hc
      obtain ⟨e, he, rfl⟩ := Option.map_eq_some_iff.mp hm
      exact .inl ⟨e, List.mem_of_find?_eq_some he, rfl, hc⟩
    · right; split <;> simp only [*]
  · right; split <;> simp only [*]

theorem lookupId_memo_inv (w : World) (x : Mat) (hx : MatInv x)
    (id : Nat) (ext : Bool) : MatInv (lookupId w x id ext).2 := by
  unfold MatInv
  rw [lookupId_frames_eq]
  unfold lookupId
  split
  · split
    · -- validated hit
      exact hx
    · split
      · -- stale hit, the scan finds `h'`
        rename_i h' hf
        exact List.forall_mem_cons.mpr ⟨List.mem_of_find?_eq_some hf, fun e he => hx e (List.mem_filter.mp he).1⟩
      · -- stale hit, the scan finds nothing
        exact hx
  · split
    · -- miss, the scan finds `h'`
      rename_i h' hf
      exact List.forall_mem_cons.mpr ⟨List.mem_of_find?_eq_some hf, hx⟩
    · -- miss, the scan finds nothing
      exact hx

theorem find_obj_sound (w : World) (fs : List Nat) (P : FObj → Bool) (h : Nat)
    (hr : fs.find? (fun h => match w.obj h with | some o => P o | none => false) = some h) :
    h ∈ fs ∧ ∃ o, w.obj h = some o ∧ P o = true := by
  refine ⟨List.mem_of_find?_eq_some hr, ?_⟩
  have := List.find?_some hr
  split at this
  · rename_i o ho
    exact ⟨o, ho, this⟩
  · simp at this

theorem find_obj_complete (w : World) (fs : List Nat) (P : FObj → Bool) :
    fs.find? (fun h => match w.obj h with | some o => P o | none => false) = none ↔
      ∀ h ∈ fs, ∀ o, w.obj h = some o → P o = false := by
  rw [List.find?_eq_none]
  refine forall₂_congr fun h _ => ?_
  cases w.obj h <;> simp

theorem setMat_heap (w : World) (m : Nat) (x : Mat) : (w.setMat m x).heap = w.heap := rfl

theorem matInv_nil (fs : List Nat) : MatInv { frames := fs, memo := [] } := by
  intro e he; cases he

/-- `Moves T w w'`: `w'` arises from `w` by replacing matrices listed in `T`, allocating objects and
adding matrices.  A replacement has to keep the memo invariant only if all matrices had it before:
that is what a memoising lookup guarantees. -/
inductive Moves (T : List Nat) (w : World) : World → Prop
  | refl : Moves T w w
  | setMat {w1 : World} (m : Nat) (x : Mat) :
      Moves T w w1 → m ∈ T → (Inv w1 → MatInv x) → Moves T w (w1.setMat m x)
  | alloc {w1 : World} (l : List FObj) : Moves T w w1 → Moves T w { w1 with heap := w1.heap ++ l }
  | newMat {w1 : World} (x : Mat) :
      Moves T w w1 → (Inv w1 → MatInv x) → Moves T w { w1 with mats := w1.mats ++ [x] }

namespace Moves
variable {T : List Nat} {w w' : World}

theorem inv (h : Moves T w w') (hw : Inv w) : Inv w' := by
  induction h with
  | refl => exact hw
  | setMat m x _ _ hx ih => exact fun y hy => (List.mem_or_eq_of_mem_set hy).elim (ih y) (· ▸ hx ih)
  | alloc l _ ih => exact ih
  | newMat x _ hx ih => exact List.forall_mem_append.mpr ⟨ih, List.forall_mem_singleton.mpr (hx ih)⟩

theorem heap (h : Moves T w w') : ∃ l, w'.heap = w.heap ++ l := by
  induction h with
  | refl => exact ⟨[], (List.append_nil _).symm⟩
  | setMat m x _ _ _ ih => exact ih
  | alloc l _ ih =>
    obtain ⟨l0, h0⟩ := ih
    exact ⟨l0 ++ l, by rw [← List.append_assoc, ← h0]⟩
  | newMat x _ _ ih => exact ih

theorem mats (h : Moves T w w') :
    w.mats.length ≤ w'.mats.length ∧ ∀ i, i < w.mats.length → i ∉ T → w'.mats[i]? = w.mats[i]? := by
  induction h with
  | refl => exact ⟨Nat.le_refl _, fun _ _ _ => rfl⟩
  | setMat m x _ hm _ ih =>
    refine ⟨by simpa [World.setMat] using ih.1, fun i hi hni => ?_⟩
    rw [← ih.2 i hi hni]
    exact List.getElem?_set_ne fun hmi : m = i => hni (hmi ▸ hm)
  | alloc l _ ih => exact ih
  | newMat x _ _ ih =>
    refine ⟨by simpa using Nat.le_succ_of_le ih.1, fun i hi hni => ?_⟩
    rw [← ih.2 i hi hni]
    exact List.getElem?_append_left (Nat.lt_of_lt_of_le hi ih.1)

end Moves

theorem copyFrameStep_moves {T : List Nat} {w0 w : World} (src dst id : Nat) (ext : Bool)
    (hs : src ∈ T) (hd : dst ∈ T) (h0 : Moves T w0 w) :
    Moves T w0 (copyFrameStep w src dst id ext).1 := by
  unfold copyFrameStep
  split
  · -- no source matrix
    exact h0
  · rename_i xs hxs
    -- the lookup in the source memoises
    have hsrc : Moves T w0 (w.setMat src (lookupId w xs id ext).2) :=
      .setMat src _ h0 hs fun hw => lookupId_memo_inv w xs (hw xs (List.mem_of_getElem? hxs)) id ext
    split
    rename_i r xs' heq
    obtain rfl : xs' = (lookupId w xs id ext).2 := by rw [heq]
    simp only
    split
    · -- the frame is not in the source
      exact hsrc
    · split
      · rename_i xd o hxd ho
        -- the lookup in the target memoises as well
        have hdst := Moves.setMat dst _ hsrc hd fun hw =>
          lookupId_memo_inv (w.setMat src (lookupId w xs id ext).2) xd (hw xd (List.mem_of_getElem? hxd))
            o.id o.ext
        split
        · -- the target has a frame of that identifier already
          exact hdst
        · -- copied: a new object, appended to the target, whose memo is reset
          exact .setMat dst _ (.alloc [o] hdst) hd fun _ => matInv_nil _
      · -- no target matrix, or a dangling handle
        exact hsrc

/-- `setId` and `renameFrame` are left out: they write into existing heap objects -/
theorem step_moves (w : World) (op : LOp)
    (hop : ∀ a b c, op ≠ .setId a b c) (hop' : ∀ a b c, op ≠ .renameFrame a b c) :
    Moves (targets op) w (step w op).1 := by
  have here (m : Nat) (x : Mat) (hx : Inv w → MatInv x) : Moves [m] w (w.setMat m x) :=
    .setMat m x .refl (List.mem_singleton_self m) hx
  cases op
  case renameFrame m old new => exact absurd rfl (hop' m old new)
  case setId h id ext => exact absurd rfl (hop h id ext)
  case newMatrix => exact .newMat _ .refl fun _ => matInv_nil _
  case newFrame => exact .alloc _ .refl
  case loadMatrix fs => exact .newMat _ (.alloc fs .refl) fun _ => matInv_nil _
  case addFrame | addEcu =>
    simp only [step]; split
    · exact here _ _ fun _ => matInv_nil _
    · exact .refl
  case removeFrame | delFrame | delFrameByName =>
    simp only [step]; split
    · split
      · exact here _ _ fun _ => matInv_nil _
      · exact .refl
    · exact .refl
  case appendFrame m h =>
    simp only [step]; split
    · rename_i x hx
      exact here m _ fun hw e he => List.mem_append_left _ (hw x (List.mem_of_getElem? hx) e he)
    · exact .refl
  case byId m id ext =>
    simp only [step]; split
    · rename_i x hx
      exact here m _ fun hw => lookupId_memo_inv w x (hw x (List.mem_of_getElem? hx)) id ext
    · exact .refl
  case byName | byPgn => simp only [step]; split <;> exact .refl
  case copyFrame src dst id ext =>
    exact copyFrameStep_moves src dst id ext List.mem_cons_self
      (List.mem_cons_of_mem _ (List.mem_singleton_self _)) .refl
  case merge dst src =>
    have hd : dst ∈ [dst, src] := List.mem_cons_self
    have hs : src ∈ [dst, src] := List.mem_cons_of_mem _ (List.mem_singleton_self _)
    simp only [step]; split
    · rename_i xs _ _ _
      have one (w1 : World) (h1 : Moves [dst, src] w w1) (h : Nat) (_ : h ∈ xs.frames) :
          Moves [dst, src] w (match w1.obj h with
            | some o => (copyFrameStep w1 src dst o.id o.ext).1
            | none => w1) := by
        split
        · exact copyFrameStep_moves src dst _ _ hs hd h1
        · exact h1
      split
      · exact .setMat dst _ (List.foldlRecOn xs.frames _ .refl one) hd fun _ => matInv_nil _
      · exact List.foldlRecOn xs.frames _ .refl one
    · exact .refl
  case deepcopy m =>
    simp only [step]; split
    · rename_i x hx
      refine .newMat _ (.alloc _ .refl) fun hw e he => ?_
      obtain ⟨e0, he0, hif⟩ := List.mem_filterMap.mp he
      split at hif
      · cases hif
        exact List.mem_map_of_mem (hw x (List.mem_of_getElem? hx) e0 he0)
      · cases hif
    · exact .refl

theorem step_heap_stable (w : World) (op : LOp)
    (hop : ∀ a b c, op ≠ .setId a b c) (hop' : ∀ a b c, op ≠ .renameFrame a b c)
    (h : Nat) (hh : h < w.heap.length) : (step w op).1.heap[h]? = w.heap[h]? := by
  obtain ⟨l, hl⟩ := (step_moves w op hop hop').heap
  rw [hl]
  exact List.getElem?_append_left hh

end CanVerif.LookupProofs
