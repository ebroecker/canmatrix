/-!
Closed instances are stated with string literals and decided by the kernel.  Left to itself the kernel computes `"…".toList` by
decoding the literal's UTF-8 bytes, character by character, and that decoding is then nearly all of the evaluation.  A literal is
`String.ofList` of its characters by definition, so `String.toList_ofList` gives the list without any computation.
-/

/-- replaces `"…".toList` of every literal in the goal by the list of its characters, also under `[…].map String.toList` (unfold the
definitions that hold the literals first) -/
macro "lit_chars" : tactic =>
  `(tactic| ((try simp only [List.map_cons, List.map_nil]); repeat rw [String.toList_ofList]))
