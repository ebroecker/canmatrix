import CanVerif.Model.Copy
import CanVerif.Proofs.FirstMatch
/-!
# copy_frame / merge (C12): what each step of the copy leaves alone

The invariant of `copyFrame`'s three loops: the target's frames stay in front, followed by one frame
that differs from the source frame in attributes only (`FInv`), while ECUs and definitions only grow
(`Rel`, `DefsPres`).
-/
namespace CanVerif

/-- looking a key up after rewriting the values stored under `a` -/
theorem get_map_upd {β : Type} (l : List (String × β)) (a : String) (g : β → β) (k : String) :
    ((l.map fun kv => if kv.1 == a then (a, g kv.2) else kv).find? (·.1 == k)).map (·.2)
      = ((l.find? (·.1 == k)).map (·.2)).map fun v => if k = a then g v else v := by
  have hkey : ((fun kv : String × β => kv.1 == k) ∘ fun kv => if kv.1 == a then (a, g kv.2) else kv)
      = fun kv => kv.1 == k := by
    funext kv
    by_cases h : kv.1 = a <;> simp [h]
  rw [List.find?_map, hkey]
  cases hf : l.find? (·.1 == k) with
  | none => rfl
  | some kv =>
    obtain rfl : kv.1 = k := by simpa using List.find?_some hf
    by_cases h : kv.1 = a <;> simp [h]

theorem attrGet_attrSet (l : Attrs) (a v k : String) :
    attrGet (attrSet l a v) k = if k = a then some v else attrGet l k := by
  unfold attrSet
  split
  · rename_i h
    rw [attrGet, get_map_upd l a (fun _ => v) k]
    split
    · rename_i hk
      subst hk
      obtain ⟨x, hx⟩ := Option.isSome_iff_exists.mp (List.find?_isSome.mpr (List.any_eq_true.mp h))
      rw [hx]
      rfl
    · simp only [attrGet, Option.map_map]
      rfl
  · rename_i h
    rw [attrGet, List.find?_append]
    by_cases hk : k = a
    · subst hk
      rw [List.find?_eq_none.mpr fun x hx hp => h (List.any_eq_true.mpr ⟨x, hx, hp⟩)]
      simp
    · cases hf : l.find? (·.1 == k) <;> simp [attrGet, hf, hk, Ne.symm hk]

theorem defGet_append_of_some (d e : Defs) (k : String) (x : Define) (h : defGet d k = some x) :
    defGet (d ++ e) k = some x := by
  obtain ⟨kv, hf, rfl⟩ := Option.map_eq_some_iff.mp h
  rw [defGet, List.find?_append, hf]
  rfl

theorem defHas_of_defGet (d : Defs) (k : String) (x : Define) (h : defGet d k = some x) : defHas d k = true := by
  obtain ⟨kv, hf, -⟩ := Option.map_eq_some_iff.mp h
  exact List.any_eq_true.mpr ⟨kv, List.mem_of_find?_eq_some hf, (List.find?_some hf :)⟩

theorem defGet_defUpdate (d : Defs) (a : String) (g : Define → Define) (k : String) :
    defGet (defUpdate d a g) k = (defGet d k).map (fun df => if k = a then g df else df) :=
  get_map_upd d a g k

def DefsPres (d d' : Defs) : Prop :=
  ∀ k df, defGet d k = some df → ∃ df', defGet d' k = some df' ∧ df'.default = df.default ∧ df'.kind = df.kind

theorem DefsPres.refl (d : Defs) : DefsPres d d := fun _ df h => ⟨df, h, rfl, rfl⟩

theorem DefsPres.trans {a b c : Defs} (h1 : DefsPres a b) (h2 : DefsPres b c) : DefsPres a c := by
  intro k df h
  obtain ⟨df1, g1, e1, e1'⟩ := h1 k df h
  obtain ⟨df2, g2, e2, e2'⟩ := h2 k df1 g1
  exact ⟨df2, g2, e2.trans e1, e2'.trans e1'⟩

theorem addDefine_pres (d : Defs) (k : String) (sd : Define) : DefsPres d (addDefine d k sd) := by
  intro k' df h
  unfold addDefine
  split
  · exact ⟨df, h, rfl, rfl⟩
  · exact ⟨df, defGet_append_of_some _ _ _ _ h, rfl, rfl⟩

theorem defUpdate_pres (d : Defs) (a : String) (g : Define → Define)
    (hg : ∀ df, (g df).default = df.default ∧ (g df).kind = df.kind) : DefsPres d (defUpdate d a g) := by
  intro k df h
  refine ⟨_, by rw [defGet_defUpdate, h]; rfl, ?_⟩
  split
  · exact hg df
  · exact ⟨rfl, rfl⟩

theorem enumUpdate_pres (d : Defs) (a : String) (v : Option String) : DefsPres d (enumUpdate d a v) := by
  unfold enumUpdate
  cases v with
  | none => exact DefsPres.refl d
  | some val =>
    apply defUpdate_pres
    intro df
    split <;> simp

theorem copyAttr_pres (srcAttrs : Attrs) (srcDefs tgtDefs : Defs) (objAttrs : Attrs) (a : String) (sd : Define) :
    DefsPres tgtDefs (copyAttr srcAttrs srcDefs tgtDefs objAttrs a sd).1 := by
  unfold copyAttr
  split
  · exact DefsPres.refl _
  · simp only
    split
    · exact (addDefine_pres _ _ _).trans (enumUpdate_pres _ _ _)
    · exact addDefine_pres _ _ _

theorem defGet_enumUpdate_default (d : Defs) (a : String) (v : Option String) :
    (defGet (enumUpdate d a v) a).bind (·.default) = (defGet d a).bind (·.default) := by
  cases h : defGet d a with
  | none =>
    cases v with
    | none => simp [enumUpdate, h]
    | some val => simp [enumUpdate, defGet_defUpdate, h]
  | some df =>
    obtain ⟨df', h1, h2, _⟩ := enumUpdate_pres d a v a df h
    simp [h1, h2]

theorem effective_of_some {attrs : Attrs} {a v : String} (h : attrGet attrs a = some v) (d : Defs) :
    effective attrs d a = some v := by
  rw [effective, h]

theorem effective_of_none {attrs : Attrs} {a : String} (h : attrGet attrs a = none) (d : Defs) :
    effective attrs d a = (defGet d a).bind (·.default) := by
  rw [effective, h]

theorem effective_enumUpdate (attrs : Attrs) (d : Defs) (a : String) (v : Option String) :
    effective attrs (enumUpdate d a v) a = effective attrs d a := by
  unfold effective
  rw [defGet_enumUpdate_default]

theorem setEcuAttrs_eq (ecus : List CEcu) (n : String) (a : Attrs) :
    setEcuAttrs ecus n a = rewriteFirst (·.name == n) ({ · with attrs := a }) ecus := by
  induction ecus with
  | nil => rfl
  | cons e t ih => rw [setEcuAttrs, ih, rewriteFirst]

theorem setFrameAttrs_eq (fs : List CFrame) (id : Nat) (ext : Bool) (a : Attrs) :
    setFrameAttrs fs id ext a =
      rewriteFirst (fun f => f.id == id && f.ext == ext) ({ · with attrs := a }) fs := by
  induction fs with
  | nil => rfl
  | cons f t ih => rw [setFrameAttrs, ih, rewriteFirst]

theorem setSigAttrs_go_eq (sn : String) (a : Attrs) (l : List CSig) :
    setSigAttrs.go sn a l = rewriteFirst (·.name == sn) ({ · with attrs := a }) l := by
  induction l with
  | nil => rfl
  | cons s r ih => rw [setSigAttrs.go, ih, rewriteFirst]

theorem setSigAttrs_eq (fs : List CFrame) (id : Nat) (ext : Bool) (sn : String) (a : Attrs) :
    setSigAttrs fs id ext sn a = rewriteFirst (fun f => f.id == id && f.ext == ext)
      (fun f => { f with sigs := rewriteFirst (·.name == sn) ({ · with attrs := a }) f.sigs }) fs := by
  induction fs with
  | nil => rfl
  | cons f t ih => rw [setSigAttrs, ih, rewriteFirst, setSigAttrs_go_eq]

/-- what a copying step may do to the matrix outside its frame list -/
structure Rel (t t' : CMat) : Prop where
  ecus : t.ecus <+: t'.ecus
  fd : DefsPres t.frameDefs t'.frameDefs
  sd : DefsPres t.sigDefs t'.sigDefs
  ed : DefsPres t.ecuDefs t'.ecuDefs

theorem Rel.refl (t : CMat) : Rel t t := ⟨List.prefix_refl _, DefsPres.refl _, DefsPres.refl _, DefsPres.refl _⟩

theorem Rel.trans {a b c : CMat} (h1 : Rel a b) (h2 : Rel b c) : Rel a c :=
  ⟨h1.ecus.trans h2.ecus, h1.fd.trans h2.fd, h1.sd.trans h2.sd, h1.ed.trans h2.ed⟩

theorem copyEcu_rel (src t : CMat) (ecu : CEcu) (h : t.ecuByName ecu.name = none) :
    (copyEcu src t ecu).frames = t.frames ∧ Rel t (copyEcu src t ecu) := by
  have hE : ∀ e ∈ t.ecus, (e.name == ecu.name) = false := by
    simpa [CMat.ecuByName] using h
  rw [copyEcu, if_neg (by simpa using hE)]
  refine List.foldlRecOn (motive := fun r => r.frames = t.frames ∧ Rel t r) _ _ ?_ ?_
  · exact ⟨rfl, List.prefix_append _ _, DefsPres.refl _, DefsPres.refl _, DefsPres.refl _⟩
  intro r ⟨h1, h2⟩ kv _
  dsimp only
  split
  · exact ⟨h1, h2⟩
  · refine ⟨h1, ?_, h2.fd, h2.sd, h2.ed.trans (copyAttr_pres _ _ _ _ _ _)⟩
    obtain ⟨rest, hr⟩ := h2.ecus
    show t.ecus <+: setEcuAttrs r.ecus _ _
    rw [← hr, setEcuAttrs_eq, rewriteFirst_append _ _ hE]
    exact List.prefix_append _ _

/-- `C12.SameCore` is the same conjunction, spelled out in the property file; `C12.copy_frame_fields`
hands one over as the other -/
def CoreEq (f g : CFrame) : Prop :=
  g.id = f.id ∧ g.ext = f.ext ∧ g.name = f.name ∧ g.body = f.body ∧ g.transmitters = f.transmitters ∧
  g.sigs.map (fun s => (s.name, s.body, s.receivers)) = f.sigs.map (fun s => (s.name, s.body, s.receivers))

/-- `F` followed by one frame that is `frame` up to attributes -/
def FInv (F : List CFrame) (frame : CFrame) (t : CMat) : Prop := ∃ g, t.frames = F ++ [g] ∧ CoreEq frame g

theorem FInv.rewrite {F : List CFrame} {frame : CFrame} {t : CMat} (h : FInv F frame t)
    {p : CFrame → Bool} (hF : ∀ f ∈ F, p f = false)
    {u : CFrame → CFrame} (hu : ∀ g, CoreEq frame g → CoreEq frame (u g)) :
    ∃ g, rewriteFirst p u t.frames = F ++ [g] ∧ CoreEq frame g := by
  obtain ⟨g, hg, hc⟩ := h
  rw [hg, rewriteFirst_append p u hF, rewriteFirst, rewriteFirst]
  split
  · exact ⟨u g, rfl, hu g hc⟩
  · exact ⟨g, rfl, hc⟩

theorem FInv.setFrameAttrs {F : List CFrame} {frame : CFrame} {t : CMat} (h : FInv F frame t)
    (hF : ∀ f ∈ F, (f.id == frame.id && f.ext == frame.ext) = false) (a : Attrs) :
    ∃ g, setFrameAttrs t.frames frame.id frame.ext a = F ++ [g] ∧ CoreEq frame g := by
  rw [setFrameAttrs_eq]
  exact h.rewrite hF fun g hc => hc

theorem FInv.setSigAttrs {F : List CFrame} {frame : CFrame} {t : CMat} (h : FInv F frame t)
    (hF : ∀ f ∈ F, (f.id == frame.id && f.ext == frame.ext) = false) (sn : String) (a : Attrs) :
    ∃ g, setSigAttrs t.frames frame.id frame.ext sn a = F ++ [g] ∧ CoreEq frame g := by
  rw [setSigAttrs_eq]
  -- only the signal list changes, and there only attributes
  exact h.rewrite hF fun g ⟨hid, hext, hname, hbody, htx, hsigs⟩ =>
    ⟨hid, hext, hname, hbody, htx, by rw [← hsigs]; exact map_rewriteFirst _ (by intro; rfl) _⟩

theorem copyFrame_accept {src tgt : CMat} {id : Nat} {ext : Bool} {f : CFrame}
    (hs : src.frameById id ext = some f) (ht : tgt.frameById f.id f.ext = none) :
    ∃ t', copyFrame src tgt id ext = some (t', true) ∧ FInv tgt.frames f t' ∧ Rel tgt t' := by
  have hF : ∀ g ∈ tgt.frames, (g.id == f.id && g.ext == f.ext) = false := by
    simpa [CMat.frameById] using ht
  let Q : CMat → Prop := fun t => FInv tgt.frames f t ∧ Rel tgt t
  have step {t t' : CMat} (hq : Q t)
      (hs : FInv tgt.frames f t → FInv tgt.frames f t' ∧ Rel t t') : Q t' :=
    ⟨(hs hq.1).1, hq.2.trans (hs hq.1).2⟩
  simp only [copyFrame, hs, ht, Option.isSome_none, Bool.false_eq_true, if_false]
  refine ⟨_, rfl, ?_⟩
  -- The result nests the three loops of `copy_frame`, the last one outermost, so they are peeled off
  -- last first.  Third loop: the signal attribute definitions of the source, for every signal.
  refine List.foldlRecOn (motive := Q) _ _ ?secondLoop fun t ht sg _ =>
    List.foldlRecOn (motive := Q) _ _ ht fun t ht kv _ => ?signalStep
  case signalStep =>
    split
    · exact ht
    · exact step ht fun h => ⟨h.setSigAttrs hF _ _,
        List.prefix_refl _, DefsPres.refl _, copyAttr_pres _ _ _ _ _ _, DefsPres.refl _⟩
  -- Second loop: the frame attribute definitions of the source.
  refine List.foldlRecOn (motive := Q) _ _ ?firstLoop fun t ht kv _ => ?frameStep
  case frameStep =>
    split
    · exact ht
    · exact step ht fun h => ⟨h.setFrameAttrs hF _,
        List.prefix_refl _, copyAttr_pres _ _ _ _ _ _, DefsPres.refl _, DefsPres.refl _⟩
  -- First loop: the ECUs the frame refers to; one the source has and the target lacks is copied.
  refine List.foldlRecOn (motive := Q) _ _ ?start fun t ht n _ => ?ecuStep
  case ecuStep =>
    split
    · rename_i se h1 h2
      obtain rfl : se.name = n := by simpa using List.find?_some h1
      have := copyEcu_rel src t se h2
      exact step ht fun ⟨g, hg, hc⟩ => ⟨⟨g, this.1.trans hg, hc⟩, this.2⟩
    · exact ht
  exact ⟨⟨f, rfl, rfl, rfl, rfl, rfl, rfl, rfl⟩,
    List.prefix_refl _, DefsPres.refl _, DefsPres.refl _, DefsPres.refl _⟩

theorem copyFrame_rel {src tgt t' : CMat} {id : Nat} {ext b : Bool}
    (hc : copyFrame src tgt id ext = some (t', b)) : Rel tgt t' ∧ tgt.frames <+: t'.frames := by
  cases hs : src.frameById id ext with
  | none => simp [copyFrame, hs] at hc
  | some f =>
    cases ht : tgt.frameById f.id f.ext with
    | some g =>
      obtain ⟨rfl, -⟩ : tgt = t' ∧ false = b := by simpa [copyFrame, hs, ht] using hc
      exact ⟨Rel.refl _, List.prefix_refl _⟩
    | none =>
      obtain ⟨t'', h, ⟨g, hg, _⟩, hrel⟩ := copyFrame_accept hs ht
      obtain ⟨rfl, -⟩ : t'' = t' ∧ true = b := by simpa [h] using hc
      exact ⟨hrel, hg ▸ List.prefix_append _ _⟩

end CanVerif
