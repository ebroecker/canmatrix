import CanVerif.Proofs.DbcFile
/-!
# Statements of a DBC file hit exactly their targets (Model/DbcFile.lean): look-ups by identifier and by signal name under uniqueness,
and the effect of each statement kind that names a frame or a signal.
-/
namespace CanVerif.Dbc.FileProofs
open CanVerif CanVerif.Dbc

theorem findLast_go_none {α} (p : α → Bool) (l : List α) (i : Nat) (best : Option Nat) (h : ∀ a ∈ l, p a = false) :
    findLastIdx.go p i best l = best := by
  induction l generalizing i best with
  | nil => rfl
  | cons a r ih =>
    simp only [findLastIdx.go, h a (by simp), Bool.false_eq_true, if_false]
    exact ih _ _ (fun x hx => h x (List.mem_cons_of_mem _ hx))

def AtMostOne {α} (p : α → Bool) : List α → Prop
  | [] => True
  | a :: r => (p a = true → ∀ b ∈ r, p b = false) ∧ AtMostOne p r

theorem findLast_go_unique {α} (p : α → Bool) (l : List α) (i : Nat) (h : AtMostOne p l) :
    findLastIdx.go p i none l = (l.findIdx? p).map (· + i) := by
  induction l generalizing i with
  | nil => rfl
  | cons a r ih =>
    obtain ⟨h1, h2⟩ := h
    by_cases ha : p a = true
    · simp only [findLastIdx.go, ha, if_true, List.findIdx?_cons, Option.map_some, Nat.zero_add]
      exact findLast_go_none p r _ _ (h1 ha)
    · have ha' : p a = false := by simpa using ha
      simp only [findLastIdx.go, ha', Bool.false_eq_true, if_false, List.findIdx?_cons]
      rw [ih (i + 1) h2]
      cases r.findIdx? p with
      | none => rfl
      | some j => simp [Nat.add_assoc, Nat.add_comm 1 i]

theorem findLast_unique {α} (p : α → Bool) (l : List α) (h : AtMostOne p l) : findLastIdx p l = l.findIdx? p := by
  unfold findLastIdx
  rw [findLast_go_unique p l 0 h]
  cases l.findIdx? p <;> simp

theorem findIdx_unique {α} (p : α → Bool) (l : List α) (i : Nat) (f : α) (hget : l[i]? = some f) (hp : p f = true)
    (hu : AtMostOne p l) : l.findIdx? p = some i := by
  induction l generalizing i with
  | nil => simp at hget
  | cons a r ih =>
    obtain ⟨h1, h2⟩ := hu
    cases i with
    | zero =>
      simp only [List.getElem?_cons_zero, Option.some.injEq] at hget
      subst hget
      simp [List.findIdx?_cons, hp]
    | succ j =>
      simp only [List.getElem?_cons_succ] at hget
      have hmem : f ∈ r := List.mem_of_getElem? hget
      have ha : p a = false := Bool.eq_false_iff.mpr fun hpa => absurd hp (by rw [h1 hpa f hmem]; decide)
      simp only [List.findIdx?_cons, ha, Bool.false_eq_true, if_false]
      rw [ih j hget h2]
      rfl

def KeysUnique (m : RMatrix) : Prop := m.frames.Pairwise fun a b => a.key ≠ b.key

theorem atMostOne_of_pairwise {α β} [BEq β] [LawfulBEq β] (g : α → β) (k : β) (l : List α)
    (h : l.Pairwise fun a b => g a ≠ g b) : AtMostOne (fun x => g x == k) l := by
  induction l with
  | nil => trivial
  | cons a r ih =>
    rw [List.pairwise_cons] at h
    refine ⟨fun ha b hb => ?_, ih h.2⟩
    rw [eq_of_beq ha] at h
    exact beq_eq_false_iff_ne.mpr fun e => h.1 b hb e.symm

theorem atMostOne_key (fs : List RFrame) (k : Nat × Bool) (h : fs.Pairwise fun a b => a.key ≠ b.key) :
    AtMostOne (fun f => f.key == k) fs := atMostOne_of_pairwise (fun f : RFrame => f.key) k fs h

/-- with pairwise different identifiers the frame registered last under an identifier is the first frame that has it -/
theorem frameIdx_unique (m : RMatrix) (hu : KeysUnique m) (n : Nat) (k : Nat × Bool) (hk : keyOfCompound n = some k) :
    frameIdx m n = m.frames.findIdx? fun f => f.key == k := by
  unfold frameIdx
  rw [hk]
  exact findLast_unique _ _ (atMostOne_key m.frames k hu)

theorem lookup_by_identifier (m : RMatrix) (hu : KeysUnique m) (i : Nat) (f : RFrame) (n : Nat)
    (hget : m.frames[i]? = some f) (hk : keyOfCompound n = some f.key) : frameIdx m n = some i := by
  rw [frameIdx_unique m hu n f.key hk]
  exact findIdx_unique _ _ i f hget (by simp) (atMostOne_key m.frames f.key hu)

theorem lookup_unknown (m : RMatrix) (n : Nat) (k : Nat × Bool) (hk : keyOfCompound n = some k)
    (hno : ∀ f ∈ m.frames, f.key ≠ k) : frameIdx m n = none := by
  unfold frameIdx findLastIdx
  rw [hk]
  exact findLast_go_none _ _ _ _ (fun f hf => by simpa using hno f hf)

theorem modifyAt_eq_modify {α} (l : List α) (i : Nat) (g : α → α) : modifyAt l i g = l.modify i g := by
  induction l generalizing i with
  | nil => cases i <;> rfl
  | cons a r ih => cases i with
    | zero => rfl
    | succ i => simp only [modifyAt, List.modify_succ_cons, ih]

theorem modifyAt_get {α} (l : List α) (i j : Nat) (g : α → α) :
    (modifyAt l i g)[j]? = if j = i then (l[j]?).map g else l[j]? := by
  rw [modifyAt_eq_modify, List.getElem?_modify]
  by_cases h : i = j
  · simp only [h, if_true]; rfl
  · simp only [h, Ne.symm h, if_false]; exact Option.map_id' ..

theorem modifyAt_length {α} (l : List α) (i : Nat) (g : α → α) : (modifyAt l i g).length = l.length := by
  rw [modifyAt_eq_modify, List.length_modify]

theorem modifyAt_mid {α} (l1 l2 : List α) (x : α) (g : α → α) : modifyAt (l1 ++ x :: l2) l1.length g = l1 ++ g x :: l2 := by
  induction l1 with
  | nil => rfl
  | cons y r ih => simp [modifyAt, ih]

def NamesUnique (f : RFrame) : Prop := f.sigs.Pairwise fun a b => a.sg.name ≠ b.sg.name

theorem findIdx_of_nodup {α} (p : α → Str) (l : List α) (hnd : (l.map p).Nodup) (i : Nat) (a : α) (hget : l[i]? = some a) :
    l.findIdx? (fun x => p x == p a) = some i :=
  findIdx_unique _ _ i a hget (by simp) (atMostOne_of_pairwise p (p a) l (List.pairwise_map.mp hnd))

theorem lookup_signal (f : RFrame) (hu : NamesUnique f) (j : Nat) (s : RSig) (hget : f.sigs[j]? = some s) :
    sigIdx f s.sg.name = some j :=
  findIdx_of_nodup (fun x : RSig => x.sg.name) f.sigs (List.pairwise_map.mpr hu) j s hget

theorem effect_cm_bo (m : RMatrix) (n i : Nat) (text : Str) (h : frameIdx m n = some i) :
    applyItem m (.cm (.bo n) text) = ({ m with cur := some i }).modFrame i fun f => { f with comment := some text } := by
  simp only [applyItem, Item.frameNo, key_of_frameIdx m n i h, Bool.false_eq_true, if_false, applyCore, h]

theorem effect_tx (m : RMatrix) (t : TxLine) (i : Nat) (h : frameIdx m t.id = some i) :
    applyItem m (.tx t) = ({ m with cur := some i }).modFrame i fun f => { f with transmitters := addTransmitters f.transmitters t.ecus } := by
  simp only [applyItem, Item.frameNo, key_of_frameIdx m t.id i h, Bool.false_eq_true, if_false, applyCore, h]

theorem effect_cm_sg (m : RMatrix) (n i j : Nat) (name text : Str) (f : RFrame) (h : frameIdx m n = some i)
    (hf : m.frames[i]? = some f) (hs : sigIdx f name = some j) :
    applyItem m (.cm (.sg n name) text) =
      ({ m with cur := some i }).modFrame i fun f => f.modSig j fun s => { s with comment := some text } := by
  simp only [applyItem, Item.frameNo, key_of_frameIdx m n i h, Bool.false_eq_true, if_false, applyCore, h, hf, Option.bind_some, hs]

theorem effect_val (m : RMatrix) (v : ValLine) (i j : Nat) (f : RFrame) (h : frameIdx m v.id = some i)
    (hf : m.frames[i]? = some f) (hs : sigIdx f v.name = some j) :
    applyItem m (.val v) =
      ({ m with cur := some i }).modFrame i fun f => f.modSig j fun s =>
        { s with values := v.entries.foldl (fun acc (k, t) => assocSet acc k t) s.values } := by
  simp only [applyItem, Item.frameNo, key_of_frameIdx m v.id i h, Bool.false_eq_true, if_false, applyCore, h, hf, Option.bind_some, hs]

theorem effect_valtype (m : RMatrix) (n i j : Nat) (name : Str) (f : RFrame) (h : frameIdx m n = some i)
    (hf : m.frames[i]? = some f) (hs : sigIdx f name = some j) :
    applyItem m (.valtype n name) =
      ({ m with cur := some i }).modFrame i fun f => f.modSig j fun s => { s with isFloat := true } := by
  simp only [applyItem, Item.frameNo, key_of_frameIdx m n i h, Bool.false_eq_true, if_false, applyCore, h, hf, Option.bind_some, hs]

theorem effect_mul (m : RMatrix) (ml : MulLine) (i j : Nat) (f : RFrame) (h : frameIdx m ml.id = some i)
    (hf : m.frames[i]? = some f) (hs : sigIdx f ml.sig = some j) :
    applyItem m (.mul ml) =
      ({ m with cur := some i }).modFrame i fun f =>
        { (f.modSig j fun s => { s with muxer := some ml.muxer, ranges := s.ranges ++ ml.ranges }) with complexMux := true } := by
  simp only [applyItem, Item.frameNo, key_of_frameIdx m ml.id i h, Bool.false_eq_true, if_false, applyCore, h, hf, Option.bind_some, hs]

theorem effect_ba_signal (m : RMatrix) (attr v name : Str) (n i j : Nat) (f : RFrame) (h : frameIdx m n = some i)
    (hf : m.frames[i]? = some f) (hs : sigIdx f name = some j) (hnum : numericOk m .signal attr v = true) :
    applyItem m (.ba ⟨attr, .signal n name, v⟩) =
      m.modFrame i fun f => f.modSig j fun s => { s with attrs := assocSet s.attrs attr (stripWs v) } := by
  simp only [applyItem, Item.frameNo, key_of_frameIdx m n i h, Bool.false_eq_true, if_false, applyCore, h, hf, Option.bind_some, hs, hnum,
    Bool.not_true]

theorem effect_ba_frame (m : RMatrix) (attr v : Str) (n i : Nat) (h : frameIdx m n = some i) (hnum : numericOk m .frame attr v = true) :
    applyItem m (.ba ⟨attr, .frame n, v⟩) = m.modFrame i fun f => { f with attrs := assocSet f.attrs attr (stripWs v) } := by
  simp only [applyItem, Item.frameNo, key_of_frameIdx m n i h, Bool.false_eq_true, if_false, applyCore, h, hnum, Bool.not_true]

theorem effect_grp (m : RMatrix) (g : GroupLine) (i : Nat) (h : frameIdx m g.frameId = some i) :
    applyItem m (.grp g) = ({ m with cur := some i }).modFrame i fun f => { f with groups := f.groups ++ [groupOf f g] } := by
  simp only [applyItem, Item.frameNo, key_of_frameIdx m g.frameId i h, Bool.false_eq_true, if_false, applyCore, h]

theorem modFrame_get (m : RMatrix) (i k : Nat) (g : RFrame → RFrame) :
    (m.modFrame i g).frames[k]? = if k = i then (m.frames[k]?).map g else m.frames[k]? :=
  modifyAt_get m.frames i k g

theorem modSig_get (f : RFrame) (j k : Nat) (g : RSig → RSig) :
    (f.modSig j g).sigs[k]? = if k = j then (f.sigs[k]?).map g else f.sigs[k]? :=
  modifyAt_get f.sigs j k g

theorem written_signal_comment (m : RMatrix) (hm : m.pending = none) (hu : KeysUnique m) (i j n : Nat) (f : RFrame) (s : RSig)
    (hf : m.frames[i]? = some f) (hn : NamesUnique f) (hs : f.sigs[j]? = some s) (hk : keyOfCompound n = some f.key)
    (text : Str) (hname : isIdent s.sg.name = true) (htext : wfComment text = true) :
    (cmLines (.sg n s.sg.name) text).foldl stepFile m =
      ({ m with cur := some i }).modFrame i fun f => f.modSig j fun s => { s with comment := some text } := by
  have hfi := lookup_by_identifier m hu i f n hf hk
  rw [fold_cm m (.sg n s.sg.name) text hm (by simp [FileStmt.okIn, wfCmHead, hname, htext, hfi])]
  exact effect_cm_sg m n i j s.sg.name text f hfi hf (lookup_signal f hn j s hs)

theorem written_value_table (m : RMatrix) (hm : m.pending = none) (hu : KeysUnique m) (i j : Nat) (f : RFrame) (s : RSig)
    (hf : m.frames[i]? = some f) (hn : NamesUnique f) (hs : f.sigs[j]? = some s) (v : ValLine) (hk : keyOfCompound v.id = some f.key)
    (hname : v.name = s.sg.name) (hw : (Stmt.val v).wf = true) :
    stepFile m (renderVal v) =
      ({ m with cur := some i }).modFrame i fun f => f.modSig j fun s =>
        { s with values := v.entries.foldl (fun acc (k, t) => assocSet acc k t) s.values } := by
  have hfi := lookup_by_identifier m hu i f v.id hf hk
  rw [show stepFile m (renderVal v) = _ from step_item m (.val v) _ rfl hm hw]
  exact effect_val m v i j f hfi hf (by rw [hname]; exact lookup_signal f hn j s hs)

theorem written_signal_attribute (m : RMatrix) (hm : m.pending = none) (hu : KeysUnique m) (i j n : Nat) (f : RFrame) (s : RSig)
    (hf : m.frames[i]? = some f) (hn : NamesUnique f) (hs : f.sigs[j]? = some s) (hk : keyOfCompound n = some f.key)
    (attr v : Str) (hw : (Stmt.ba ⟨attr, .signal n s.sg.name, v⟩).wf = true) (hnum : numericOk m .signal attr v = true) :
    stepFile m (renderBa ⟨attr, .signal n s.sg.name, v⟩) =
      m.modFrame i fun f => f.modSig j fun s => { s with attrs := assocSet s.attrs attr (stripWs v) } := by
  have hfi := lookup_by_identifier m hu i f n hf hk
  rw [show stepFile m (renderBa _) = _ from step_item m (.ba ⟨attr, .signal n s.sg.name, v⟩) _ rfl hm hw]
  exact effect_ba_signal m attr v s.sg.name n i j f hfi hf (lookup_signal f hn j s hs) hnum

def frameOfBo (b : BoLine) (k : Nat × Bool) : RFrame := { key := k, name := b.name, size := b.size, transmitters := [b.transmitter] }

theorem apply_bo (m : RMatrix) (b : BoLine) (k : Nat × Bool) (hk : boKey b = some k) :
    applyItem m (.bo b) = { m with frames := m.frames ++ [frameOfBo b k], cur := some m.frames.length } := by
  simp only [applyItem, Item.frameNo, applyCore, hk]
  rfl

theorem apply_sg_last (m : RMatrix) (fs : List RFrame) (f : RFrame) (s : SgLine) (hf : m.frames = fs ++ [f]) (hc : m.cur = some fs.length) :
    applyItem m (.sg s) =
      { m with frames := fs ++ [{ f with sigs := f.sigs ++ [{ sg := s }],
                                          complexMux := f.complexMux || tagIsValMuxer s.tag }] } := by
  simp only [applyItem, Item.frameNo, applyCore, hc, RMatrix.modFrame, hf, modifyAt_mid]

def sigsOf (ss : List SgLine) : List RSig := ss.map fun s => { sg := s }

theorem rereadSg_tag (s : SgLine) : (rereadSg s).tag = s.tag := by unfold rereadSg; rfl

theorem sgs_fold (sigs : List SgLine) (m : RMatrix) (fs : List RFrame) (f : RFrame) (hf : m.frames = fs ++ [f])
    (hc : m.cur = some fs.length) (hm : m.pending = none) (hw : ∀ s ∈ sigs, wfSg s = true) :
    (sigs.map renderSg).foldl stepFile m =
      { m with frames := fs ++ [{ f with sigs := f.sigs ++ sigsOf (sigs.map rereadSg),
                                          complexMux := f.complexMux || sigs.any fun s => tagIsValMuxer s.tag }] } := by
  induction sigs generalizing m f with
  | nil =>
    simp only [List.map_nil, List.foldl_nil, sigsOf, List.append_nil, List.any_nil, Bool.or_false]
    cases m; simp_all
  | cons s sigs ih =>
    simp only [List.map_cons, List.foldl_cons]
    rw [show stepFile m (renderSg s) = _ from step_item m (.sg s) _ rfl hm (hw s (by simp)), apply_sg_last m fs f (rereadSg s) hf hc]
    let f' : RFrame := { f with sigs := f.sigs ++ [{ sg := rereadSg s }], complexMux := f.complexMux || tagIsValMuxer (rereadSg s).tag }
    refine Eq.trans (ih { m with frames := fs ++ [f'] } f' rfl hc hm
      (fun x hx => hw x (List.mem_cons_of_mem _ hx))) ?_
    simp [f', sigsOf, rereadSg_tag, Bool.or_assoc]

def frameOfBlock (b : Block) (k : Nat × Bool) : RFrame :=
  { key := k, name := b.bo.name, size := b.bo.size, transmitters := [b.bo.transmitter], sigs := sigsOf (b.sigs.map rereadSg),
    complexMux := b.sigs.any fun s => tagIsValMuxer s.tag }

theorem step_gap (m : RMatrix) (hm : m.pending = none) : stepFile m [] = m := step_stmt m .gap hm rfl

theorem block_fold (b : Block) (k : Nat × Bool) (m : RMatrix) (hm : m.pending = none) (hw : wfBlock b = true)
    (hk : boKey b.bo = some k) :
    (writeBlock b).foldl stepFile m = { m with frames := m.frames ++ [frameOfBlock b k], cur := some m.frames.length } := by
  obtain ⟨hbo, hsg⟩ := wfBlock_unpack hw
  unfold writeBlock
  simp only [List.foldl_cons, List.foldl_append, List.foldl_nil]
  rw [show stepFile m (renderBo b.bo) = _ from step_item m (.bo b.bo) _ rfl hm hbo, apply_bo m b.bo k hk]
  have h2 := sgs_fold b.sigs { m with frames := m.frames ++ [frameOfBo b.bo k], cur := some m.frames.length } m.frames
    (frameOfBo b.bo k) rfl rfl hm hsg
  rw [h2, step_gap _ (by exact hm)]
  simp [frameOfBlock, frameOfBo, sigsOf]

def framesOfBlocks : List Block → List (Nat × Bool) → List RFrame
  | b :: bs, k :: ks => frameOfBlock b k :: framesOfBlocks bs ks
  | _, _ => []

theorem frames_fold_state (bs : List Block) (ks : List (Nat × Bool)) (m : RMatrix) (hm : m.pending = none)
    (hw : ∀ b ∈ bs, wfBlock b = true) (hk : bs.map (fun b => boKey b.bo) = ks.map some) :
    ∃ c, (writeFrames bs).foldl stepFile m = { m with frames := m.frames ++ framesOfBlocks bs ks, cur := c } := by
  induction bs generalizing ks m with
  | nil => exact ⟨m.cur, by simp [writeFrames, framesOfBlocks]⟩
  | cons b bs ih =>
    cases ks with
    | nil => simp at hk
    | cons k ks =>
      simp only [List.map_cons, List.cons.injEq] at hk
      simp only [writeFrames, List.flatMap_cons, List.foldl_append]
      rw [block_fold b k m hm (hw b (by simp)) hk.1]
      obtain ⟨c, h⟩ := ih ks { m with frames := m.frames ++ [frameOfBlock b k], cur := some m.frames.length } hm
        (fun x hx => hw x (List.mem_cons_of_mem _ hx)) hk.2
      simp only [writeFrames] at h
      exact ⟨c, by rw [h]; simp [framesOfBlocks]⟩

theorem frames_fold (bs : List Block) (ks : List (Nat × Bool)) (m : RMatrix) (hm : m.pending = none)
    (hw : ∀ b ∈ bs, wfBlock b = true) (hk : bs.map (fun b => boKey b.bo) = ks.map some) :
    ((writeFrames bs).foldl stepFile m).frames = m.frames ++ framesOfBlocks bs ks ∧
    ((writeFrames bs).foldl stepFile m).pending = none ∧
    ((writeFrames bs).foldl stepFile m).ecus = m.ecus ∧ ((writeFrames bs).foldl stepFile m).errors = m.errors := by
  obtain ⟨c, h⟩ := frames_fold_state bs ks m hm hw hk
  rw [h]; exact ⟨rfl, hm, rfl, rfl⟩

/-! frames after a sequence of statements: every frame goes through the updates of the statements that name it -/

def modSigByName (name : Str) (g : RSig → RSig) (f : RFrame) : RFrame :=
  match sigIdx f name with
  | some j => f.modSig j g
  | none => f

/-- what a statement does to a frame whose identifier its number denotes (statements about frames and signals) -/
def itemFrameUpd : Item → Option (Nat × (RFrame → RFrame))
  | .tx t => some (t.id, fun f => { f with transmitters := addTransmitters f.transmitters t.ecus })
  | .cm (.bo n) text => some (n, fun f => { f with comment := some text })
  | .cm (.sg n name) text => some (n, modSigByName name fun s => { s with comment := some text })
  | .val v => some (v.id, modSigByName v.name fun s => { s with values := v.entries.foldl (fun acc (k, t) => assocSet acc k t) s.values })
  | .valtype n name => some (n, modSigByName name fun s => { s with isFloat := true })
  | .grp g => some (g.frameId, fun f => { f with groups := f.groups ++ [groupOf f g] })
  | .mul ml => some (ml.id, fun f =>
      match sigIdx f ml.sig with
      | some j => { (f.modSig j fun s => { s with muxer := some ml.muxer, ranges := s.ranges ++ ml.ranges }) with complexMux := true }
      | none => f)
  | _ => none

/-- applied to every frame: the frames with the identifier the number denotes change -/
def updByNumber (n : Nat) (g : RFrame → RFrame) (f : RFrame) : RFrame :=
  if keyOfCompound n == some f.key then g f else f

theorem modifyAt_congr_at {α} (l : List α) (i : Nat) (g h : α → α) (hh : ∀ a, l[i]? = some a → g a = h a) :
    modifyAt l i g = modifyAt l i h := by
  induction l generalizing i with
  | nil => rfl
  | cons x r ih =>
    cases i with
    | zero => simp [modifyAt, hh x rfl]
    | succ i => simp only [modifyAt, List.cons.injEq, true_and]; exact ih i (fun a ha => hh a (by simpa using ha))

theorem modifyAt_id_at {α} (l : List α) (i : Nat) (g : α → α) (h : ∀ a, l[i]? = some a → g a = a) : modifyAt l i g = l := by
  rw [modifyAt_congr_at l i g id h, modifyAt_eq_modify, List.modify_id]

theorem frameIdx_valid (m : RMatrix) (hu : KeysUnique m) (n i : Nat) (h : frameIdx m n = some i) : ∃ a, m.frames[i]? = some a := by
  cases hk : keyOfCompound n with
  | none => rw [frameIdx, hk] at h; cases h
  | some k =>
    rw [frameIdx_unique m hu n k hk] at h
    obtain ⟨hlt, _⟩ := List.findIdx?_eq_some_iff_getElem.mp h
    exact ⟨_, List.getElem?_eq_getElem hlt⟩

theorem modFrame_as_map (m : RMatrix) (hu : KeysUnique m) (n i : Nat) (g : RFrame → RFrame) (h : frameIdx m n = some i) :
    modifyAt m.frames i g = m.frames.map (updByNumber n g) := by
  cases hk : keyOfCompound n with
  | none => rw [frameIdx, hk] at h; cases h
  | some k =>
    rw [frameIdx_unique m hu n k hk] at h
    apply List.ext_getElem?
    intro j
    rw [modifyAt_get, List.getElem?_map]
    cases hj : m.frames[j]? with
    | none => simp
    | some b =>
      -- the frame at `j` has the identifier exactly when `j` is the index found
      by_cases hji : j = i
      · subst hji
        obtain ⟨hlt, hp, _⟩ := List.findIdx?_eq_some_iff_getElem.mp h
        rw [List.getElem?_eq_getElem hlt, Option.some.injEq] at hj
        rw [hj] at hp
        simp [updByNumber, hk, (beq_iff_eq.mp hp).symm]
      · have hb : ¬ k = b.key := fun e => by
          rw [findIdx_unique _ _ j b hj (by simp [e]) (atMostOne_key m.frames k hu)] at h
          exact hji (Option.some.inj h)
        simp [updByNumber, hk, hji, hb]

theorem no_frame_map (m : RMatrix) (n : Nat) (g : RFrame → RFrame) (h : frameIdx m n = none) (hu : KeysUnique m) :
    m.frames.map (updByNumber n g) = m.frames := by
  refine (List.map_congr_left fun f hf => ?_).trans (List.map_id _)
  cases hk : keyOfCompound n with
  | none => simp [updByNumber, hk]
  | some k =>
    rw [frameIdx_unique m hu n k hk] at h
    have hne : ¬ k = f.key := fun e => by simpa [e] using List.findIdx?_eq_none_iff.mp h f hf
    simp [updByNumber, hk, hne]

theorem frameIdx_none_of_key (m : RMatrix) (n : Nat) (h : (keyOfCompound n).isNone = true) : frameIdx m n = none := by
  unfold frameIdx
  cases hk : keyOfCompound n with
  | none => rfl
  | some k => rw [hk] at h; simp at h

/-- an update that looks its signal up by name in the frame it is given, applied at an index: the look-up can be done beforehand -/
theorem modifyAt_bySig (l : List RFrame) (i : Nat) (a : RFrame) (ha : l[i]? = some a) (name : Str) (G : Nat → RFrame → RFrame) :
    modifyAt l i (fun f => match sigIdx f name with | some j => G j f | none => f) =
      match sigIdx a name with | some j => modifyAt l i (G j) | none => l := by
  cases hs : sigIdx a name with
  | none => exact modifyAt_id_at _ _ _ fun b hb => by rw [ha] at hb; injection hb with hb; subst hb; simp only [hs]
  | some j => exact modifyAt_congr_at _ _ _ _ fun b hb => by rw [ha] at hb; injection hb with hb; subst hb; simp only [hs]

/-- `itemFrameUpd` with the attribute statements of frames and signals (their effect where the value is accepted) -/
def itemFrameUpdA : Item → Option (Nat × (RFrame → RFrame))
  | .ba ⟨k, .frame n, v⟩ => some (n, fun f => { f with attrs := assocSet f.attrs k (stripWs v) })
  | .ba ⟨k, .signal n name, v⟩ => some (n, modSigByName name fun s => { s with attrs := assocSet s.attrs k (stripWs v) })
  | it => itemFrameUpd it

/-- is the value of an attribute statement of a frame or a signal accepted under these definitions? -/
def baOk (defs : List RDef) : Item → Bool
  | .ba ⟨k, .frame _, v⟩ => numericOk { defs := defs } .frame k v
  | .ba ⟨k, .signal _ _, v⟩ => numericOk { defs := defs } .signal k v
  | _ => true

/-- the signal a statement needs to find (a statement about a missing signal is an error only for these kinds) -/
def needsSig : Item → Option Str
  | .valtype _ name => some name
  | .ba ⟨_, .signal _ name, _⟩ => some name
  | _ => none

/-- What a statement about a frame or a signal does: the frames change as its update says, and no error is counted where it finds its
frame and, if it needs one, its signal. -/
theorem frameItem_effect (m : RMatrix) (hu : KeysUnique m) (it : Item) (n : Nat) (g : RFrame → RFrame)
    (hit : itemFrameUpdA it = some (n, g)) (hok : baOk m.defs it = true) :
    (applyItem m it).frames = m.frames.map (updByNumber n g) ∧
      ∀ i a, frameIdx m n = some i → m.frames[i]? = some a → (∀ name, needsSig it = some name → sigIdx a name ≠ none) →
        (applyItem m it).errors = m.errors := by
  cases hfi : frameIdx m n with
  | none =>
    -- No handler writes to the frames when the frame is not found.  By kind of statement (a comment's head and an attribute's target
    -- first; for a kind without update `hit` is absurd): read `n` and `g` off `hit`, unfold the handler, both of its branches leave the
    -- frames alone.
    refine ⟨?_, fun _ _ h => nomatch h⟩
    rw [no_frame_map m n g hfi hu]
    cases it with
    | cm hd text =>
      cases hd <;> simp only [itemFrameUpdA, itemFrameUpd, Option.some.injEq, Prod.mk.injEq, reduceCtorEq] at hit <;> obtain ⟨rfl, rfl⟩ := hit <;>
        simp only [applyItem, Item.frameNo, applyCore, hfi] <;> split <;> rfl
    | ba b =>
      obtain ⟨k, t, v⟩ := b
      cases t <;> simp only [itemFrameUpdA, itemFrameUpd, Option.some.injEq, Prod.mk.injEq, reduceCtorEq] at hit <;> obtain ⟨rfl, rfl⟩ := hit <;>
        simp only [applyItem, Item.frameNo, applyCore, hfi, show numericOk m _ k v = true from hok] <;> split <;> rfl
    | _ =>
      simp only [itemFrameUpdA, itemFrameUpd, Option.some.injEq, Prod.mk.injEq, reduceCtorEq] at hit <;> obtain ⟨rfl, rfl⟩ := hit <;>
        simp only [applyItem, Item.frameNo, applyCore, hfi] <;> split <;> rfl
  | some i =>
    obtain ⟨a, ha⟩ := frameIdx_valid m hu n i hfi
    have hkn := key_of_frameIdx m n i hfi
    suffices h : (applyItem m it).frames = modifyAt m.frames i g ∧
        ((∀ name, needsSig it = some name → sigIdx a name ≠ none) → (applyItem m it).errors = m.errors) from
      ⟨h.1.trans (modFrame_as_map m hu n i g hfi), fun _ _ hi ha' => by cases hi; rw [ha] at ha'; cases ha'; exact h.2⟩
    -- By kind of statement as above.  `tx`, `grp`, a frame's comment and a frame's attribute change the frame as it is: unfolding closes
    -- the goal.  The kinds about a signal look it up in the frame found, the update `g` in the frame it is given: `modifyAt_bySig`.
    cases it with
    | cm hd text =>
      cases hd <;> simp only [itemFrameUpdA, itemFrameUpd, Option.some.injEq, Prod.mk.injEq, reduceCtorEq] at hit <;> obtain ⟨rfl, rfl⟩ := hit <;>
        simp only [applyItem, Item.frameNo, hkn, Bool.false_eq_true, if_false, applyCore, hfi, ha, Option.bind_some, RMatrix.modFrame,
          implies_true, and_self] <;>
        refine ⟨Eq.trans ?_ (modifyAt_bySig _ i a ha _ _).symm, fun H => ?_⟩ <;> cases hs : sigIdx a _ <;> first | rfl | exact absurd hs (H _ rfl)
    | ba b =>
      obtain ⟨k, t, v⟩ := b
      cases t <;> simp only [itemFrameUpdA, itemFrameUpd, Option.some.injEq, Prod.mk.injEq, reduceCtorEq] at hit <;> obtain ⟨rfl, rfl⟩ := hit <;>
        simp only [applyItem, Item.frameNo, hkn, Bool.false_eq_true, if_false, applyCore, hfi, ha, Option.bind_some, RMatrix.modFrame,
          show numericOk m _ k v = true from hok, Bool.not_true, implies_true, and_self] <;>
        refine ⟨Eq.trans ?_ (modifyAt_bySig _ i a ha _ _).symm, fun H => ?_⟩ <;> cases hs : sigIdx a _ <;> first | rfl | exact absurd hs (H _ rfl)
    | _ =>
      simp only [itemFrameUpdA, itemFrameUpd, Option.some.injEq, Prod.mk.injEq, reduceCtorEq] at hit <;> obtain ⟨rfl, rfl⟩ := hit <;>
        simp only [applyItem, Item.frameNo, hkn, Bool.false_eq_true, if_false, applyCore, hfi, ha, Option.bind_some, RMatrix.modFrame,
          implies_true, and_self] <;>
        refine ⟨Eq.trans ?_ (modifyAt_bySig _ i a ha _ _).symm, fun H => ?_⟩ <;> cases hs : sigIdx a _ <;> first | rfl | exact absurd hs (H _ rfl)

theorem applyItem_frames (m : RMatrix) (hu : KeysUnique m) (it : Item) (n : Nat) (g : RFrame → RFrame)
    (hit : itemFrameUpd it = some (n, g)) : (applyItem m it).frames = m.frames.map (updByNumber n g) := by
  have h := frameItem_effect m hu it n g
  cases it with
  | ba b => simp [itemFrameUpd] at hit
  | _ => exact (h hit rfl).1

/-- the update a statement makes to a frame (identity for frames it does not name and for other statement kinds) -/
def itemUpd (it : Item) (f : RFrame) : RFrame :=
  match itemFrameUpd it with
  | some (n, g) => updByNumber n g f
  | none => f

theorem modSig_key (f : RFrame) (j : Nat) (g : RSig → RSig) : (f.modSig j g).key = f.key := rfl

theorem keysUnique_of_keys (m m' : RMatrix) (h : m'.frames.map (·.key) = m.frames.map (·.key)) (hu : KeysUnique m) : KeysUnique m' := by
  have hp : (m.frames.map (·.key)).Pairwise (· ≠ ·) := List.pairwise_map.mpr hu
  rw [← h] at hp
  exact List.pairwise_map.mp hp

end CanVerif.Dbc.FileProofs
