import CanVerif.Proofs.DbcFile
/-!
The example file of Props/C05f and what the reader makes of it, evaluated once.
-/
namespace CanVerif.C05f
open CanVerif CanVerif.Dbc

def exFile : List Str :=
  ["BU_: ECU_A ECU_B", "", "BO_ 291 Engine: 8 ECU_A", " SG_ Speed : 0|16@1+ (0.5,0) [0|100] \"km/h\" ECU_B", "",
   "BO_TX_BU_ 291 : ECU_A,ECU_B;", "CM_ BO_ 291 \"first line", "second line\";", "BA_DEF_ BO_ \"Cycle\" INT 0 1000;",
   "BA_DEF_DEF_ \"Cycle\" 100;", "BA_ \"Cycle\" BO_ 291 20;", "VAL_ 291 Speed 1 \"one\" 0 \"zero\" ;", "FOO_ unknown keyword;",
   "BA_ \"Cycle\" BO_ 291 twenty;", "SIG_VALTYPE_ 291 NoSuch : 1;"].map String.toList

theorem exFile_read : readFile exFile =
    { ecus := [{ name := "ECU_A".toList }, { name := "ECU_B".toList }],
      frames := [{ key := (291, false), name := "Engine".toList, size := 8, transmitters := ["ECU_A".toList, "ECU_B".toList],
                   sigs := [{ sg := ⟨"Speed".toList, .none, 0, 16, true, false, ⟨false, 5, -1⟩, ⟨false, 0, 0⟩, ⟨false, 0, 0⟩, ⟨false, 100, 0⟩,
                                    "km/h".toList, ["ECU_B".toList]⟩,
                              values := [(1, "one".toList), (0, "zero".toList)] }],
                   comment := some "first line\nsecond line".toList, attrs := [("Cycle".toList, "20".toList)] }],
      cur := some 0,
      defs := [{ level := .frame, name := "Cycle".toList, definition := "INT 0 1000".toList, default := some "100".toList }],
      errors := 2 } := by
  unfold exFile; lit_chars; decide +kernel

end CanVerif.C05f
