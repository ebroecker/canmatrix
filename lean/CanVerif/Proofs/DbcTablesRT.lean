import CanVerif.Proofs.DbcStmt
import CanVerif.Proofs.DbcDict
/-!
# The value tables of the matrix: what a written `VAL_TABLE_` statement does when it is read
-/
namespace CanVerif.Dbc.FileProofs
open CanVerif CanVerif.Dbc CanVerif.Num

theorem splitUnderscores_go_none (s cur : Str) (h : ∀ c ∈ s, (c == '_') = false) :
    splitUnderscores.go s cur = [cur.reverse ++ s] := by
  induction s generalizing cur with
  | nil => simp [splitUnderscores.go]
  | cons c r ih =>
    simp only [splitUnderscores.go, h c (by simp), Bool.false_eq_true, if_false]
    rw [ih (c :: cur) (fun x hx => h x (List.mem_cons_of_mem _ hx))]
    simp

/-- the digits of a number begin and end with a digit, so `strip()` leaves them as they are -/
theorem stripWs_digits (k : Nat) : stripWs (natDigits k) = natDigits k := by
  simpa using stripWs_pad [] (natDigits k) [] (by simp) (by simp) (fun c hc => isDig_not_ws (natDigits_allDig k c hc))

theorem pyIntKey_natDigits (k : Nat) : pyIntKey (natDigits k) = some (k : Int) := by
  obtain ⟨x, r, hd, hall, hv⟩ := natDigits_cons k
  have hx := hall x List.mem_cons_self
  -- `signSplit` is `Num.sgn` under another name
  have hbody : signSplit (x :: r) = (false, x :: r) := sgn_nosign x r (hx.ne rfl) (hx.ne rfl)
  have hdig : (x :: r).all isDigit = true := List.all_eq_true.mpr fun c hc => isDigit_of_isDig (hall c hc)
  unfold pyIntKey
  simp only [stripWs_digits k]
  rw [hd, hbody]
  unfold splitUnderscores
  rw [splitUnderscores_go_none (x :: r) [] (fun c hc => beq_false_of_ne ((hall c hc).ne rfl))]
  simp only [List.reverse_nil, List.nil_append, List.all_cons, List.all_nil, Bool.and_true, List.isEmpty_cons, Bool.not_false,
    hdig, if_true, List.flatten_cons, List.flatten_nil, List.append_nil, hv]
  rfl

theorem natDigits_inj (a b : Nat) (h : natDigits a = natDigits b) : a = b :=
  Option.some.inj (by rw [← digitsToNat_natDigits' a, h, digitsToNat_natDigits' b])

theorem intDigits_nat (k : Nat) : intDigits (k : Int) = natDigits k := by
  rw [intDigits, if_neg (by omega), Int.natAbs_natCast]

theorem assocSet_fold_keys {κ} [BEq κ] [LawfulBEq κ] (f : Nat → κ) (hf : ∀ a b, f a = f b → a = b) (l : List (Nat × Str))
    (hk : (l.map (·.1)).Nodup) :
    (l.map fun e => (f e.1, e.2)).foldl (fun acc (e : κ × Str) => assocSet acc e.1 e.2) [] = l.map fun e => (f e.1, e.2) := by
  refine assocSet_fold_gen (l.map fun e => (f e.1, e.2)) [] ?_
  rw [List.nil_append, List.map_map]
  have : ((l.map (·.1)).map f).Nodup := hk.map f fun a b hab e => hab (hf a b e)
  rwa [List.map_map] at this

theorem apply_vt (m : RMatrix) (t : WTable) (hk : (t.entries.map (·.1)).Nodup) :
    applyItem m (.vt t.line) = { m with tables := applyCore.assocSetTable m.tables t.line } := by
  rw [show applyItem m (.vt t.line) = applyCore m (.vt t.line) from rfl]
  simp only [applyCore, WTable.line]
  rw [assocSet_fold_keys natDigits natDigits_inj t.entries hk]
  have h2 : (t.entries.map fun e => (natDigits e.1, e.2)).mapM (fun (e : Str × Str) => (pyIntKey e.1).map fun i => (i, e.2)) =
      some (t.entries.map fun e => ((e.1 : Int), e.2)) := by
    generalize t.entries = l
    induction l with
    | nil => rfl
    | cons e r ih =>
      simp only [List.map_cons, List.mapM_cons, pyIntKey_natDigits, Option.map_some, ih]
      rfl
  rw [h2]
  simp only
  rw [assocSet_fold_keys (fun n : Nat => (n : Int)) (fun a b e => Int.ofNat.inj e) t.entries hk]
  simp only [List.map_map]
  have h4 : ((fun (e : Int × Str) => (intDigits e.1, e.2)) ∘ fun (e : Nat × Str) => ((e.1 : Int), e.2)) = fun (e : Nat × Str) => (natDigits e.1, e.2) := by
    funext e; simp [intDigits_nat]
  rw [h4]

theorem assocSetTable_new (ts : List VtLine) (v : VtLine) (h : v.name ∉ ts.map (·.name)) : applyCore.assocSetTable ts v = ts ++ [v] := by
  induction ts with
  | nil => rfl
  | cons a r ih =>
    simp only [List.map_cons, List.mem_cons, not_or] at h
    simp only [applyCore.assocSetTable, beq_eq_false_iff_ne.mpr (Ne.symm h.1), Bool.false_eq_true, if_false, List.cons_append, ih h.2]

theorem vt_fold (todo done : List WTable) (m : RMatrix) (hm : m.tables = done.map WTable.line)
    (hnd : ((done ++ todo).map (·.name)).Nodup) (hk : ∀ t ∈ todo, (t.entries.map (·.1)).Nodup) :
    (todo.map fun t => Item.vt t.line).foldl applyItem m = { m with tables := (done ++ todo).map WTable.line } := by
  induction todo generalizing done m with
  | nil => simp [← hm]
  | cons t rest ih =>
    simp only [List.map_cons, List.foldl_cons]
    rw [apply_vt m t (hk t (by simp))]
    have hnew : applyCore.assocSetTable m.tables t.line = (done ++ [t]).map WTable.line := by
      rw [hm, assocSetTable_new]
      · simp
      · have : ((done.map (·.name)) ++ t.name :: rest.map (·.name)).Nodup := by simpa using hnd
        rw [List.nodup_append] at this
        intro hmem
        simp only [List.map_map] at hmem
        exact this.2.2 t.name (by simpa [WTable.line, Function.comp_def] using hmem) t.name (by simp) rfl
    rw [hnew]
    have := ih (done ++ [t]) { m with tables := (done ++ [t]).map WTable.line } rfl (by simpa using hnd)
      (fun x hx => hk x (List.mem_cons_of_mem _ hx))
    simpa using this

theorem wfVt_line (t : WTable) (hn : isIdent t.name = true) (ht : ∀ e ∈ t.entries, wfText e.2 = true) : (Stmt.vt t.line).wf = true := by
  simp only [Stmt.wf, wfVt, WTable.line, Bool.and_eq_true, List.all_eq_true]
  exact ⟨hn, List.forall_mem_map.mpr fun e he =>
    ⟨⟨by simpa using natDigits_ne_nil e.1, fun c hc => isDigit_of_isDig (natDigits_allDig e.1 c hc)⟩, ht e he⟩⟩

end CanVerif.Dbc.FileProofs
