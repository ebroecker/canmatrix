import CanVerif.Model.DbcLines
/-! The reader of Model/DbcLines.lean is a left fold of `stepLine` over the lines. -/
namespace CanVerif

theorem loadLines_append {σ : Type} (r : Reader σ) (init : σ) (pre post : List (List Char)) :
    loadLines r init (pre ++ post) = loadLines r (loadLines r init pre) post := by
  unfold loadLines; exact List.foldl_append

theorem loadLines_cons {σ : Type} (r : Reader σ) (st : σ) (l : List Char) (ls : List (List Char)) :
    loadLines r st (l :: ls) = loadLines r (stepLine r st l) ls := rfl

end CanVerif
