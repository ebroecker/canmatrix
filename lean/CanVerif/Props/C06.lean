import CanVerif.Model.Fields
import CanVerif.Props.C08
import CanVerif.Props.C09
/-!
# C06 — every write+read format preserves frame identity and signal bit layout (field kernels)

For each format the number its writer stores for a signal's position, fed to its reader, gives back
the signal's internal start bit - for every placement, width (≥ 1) and byte order; hence (width and
byte order being stored verbatim) the signal occupies exactly the same payload bits and every payload
decodes to the same raw fields.  The same for identifiers; the DBC form is the compound integer, whose
round trip is C09's.  That stored positions are not negative rests on C08's `get_other_notation`.
The file assembly around these fields (XML/line plumbing) is tied by the correspondence check only
(partial).
-/
namespace CanVerif.C06
open CanVerif

-- `hz` keeps the statement to the widths the property speaks of; the identity holds for width 0 too
set_option linter.unusedVariables false in
/-- querying a position and setting it again in the same notation is the identity -/
theorem set_get (little : Bool) (size : Nat) (i : Nat) (bn : Option Bool) (sl : Bool) (hz : 1 ≤ size) :
    setStartbit little size (getStartbit little size i bn sl) bn sl = some (i : Int) := by
  unfold setStartbit getStartbit flipI
  -- byte order × which end of the signal is counted × bit numbering (none, reversed, as stored):
  -- in each of the twelve cases the renumbering and the move to the other end are undone in turn
  cases little <;> cases sl <;> rcases bn with _ | (_ | _) <;> simp <;> omega

/-- Intel positions do not depend on the notation switches: every writer stores the least significant bit's address -/
theorem emit_intel (f : Fmt) (s : Sig) (hl : s.little = true) : emitPos f s = (s.start : Int) := by
  unfold emitPos
  rw [hl]
  -- every writer asks for bit numbering `some true` or `none`; neither moves an Intel position
  cases f with
  | xls w r => cases w <;> rfl
  | _ => rfl

/-- Layout round trip: for every format whose reader and writer agree on the notation, every signal
of width ≥ 1 comes back at its internal start bit. -/
theorem layout_roundtrip (f : Fmt) (s : Sig) (hz : 1 ≤ s.size) (hn : notationAgrees f = true) :
    parsePos f s.little s.size (emitPos f s) = some (s.start : Int) := by
  by_cases hl : s.little = true
  · rw [emit_intel f s hl]
    unfold parsePos readSwitches setStartbit
    simp [hl]
  · have hl' : s.little = false := by simpa using hl
    unfold parsePos emitPos readSwitches writeSwitches
    simp only [hl', Bool.false_eq_true, if_false]
    cases f with
    | json w =>
      obtain rfl : w = .lsb := by simpa [notationAgrees] using hn
      exact set_get false s.size s.start _ _ hz
    | xls w r =>
      obtain rfl : w = r := by simpa [notationAgrees] using hn
      exact set_get false s.size s.start _ _ hz
    | _ => exact set_get false s.size s.start _ _ hz

/-- The JSON writer's `msb`/`msbreverse` options are not inverted by the reader (which assumes `lsb`):
these option pairs are outside the property (witness: 12-bit Motorola signal). -/
theorem json_notation_mismatch :
    parsePos (.json .msb) false 12 (emitPos (.json .msb) { name := "s", start := 4, size := 12, little := false }) ≠ some 4 := by
  decide

/-- byte and bit columns (DBF, XLS) -/
theorem split_join (n : Int) (h : 0 ≤ n) :
    joinByteBit (splitByteBit n).1 (splitByteBit n).2 = n ∧ 1 ≤ (splitByteBit n).1 ∧
    0 ≤ (splitByteBit n).2 ∧ (splitByteBit n).2 < 8 := by
  unfold joinByteBit splitByteBit
  refine ⟨?_, ?_, ?_, ?_⟩ <;> omega

/-- stored positions are never negative, so the split is well defined -/
theorem emitPos_nonneg (f : Fmt) (s : Sig) (hz : 1 ≤ s.size) : 0 ≤ emitPos f s := by
  unfold emitPos
  rw [C08.get_other_notation s.little s.size s.start _ _ hz]
  exact Int.natCast_nonneg _

/-- Consequently every payload yields the same raw field before and after the round trip: a signal
read back with the same internal start bit, width and byte order decodes identically. -/
theorem decode_same_after_roundtrip (f : Fmt) (s t : Sig) (hz : 1 ≤ s.size) (hn : notationAgrees f = true)
    (hsize : t.size = s.size) (hlittle : t.little = s.little) (hsigned : t.signed = s.signed) (hfloat : t.isFloat = s.isFloat)
    (hstart : some (t.start : Int) = parsePos f s.little s.size (emitPos f s)) (p : List Nat) :
    rawOf t p = rawOf s p := by
  rw [layout_roundtrip f s hz hn] at hstart
  have : t.start = s.start := by
    have h' : (t.start : Int) = (s.start : Int) := by simpa using hstart
    exact_mod_cast h'
  unfold rawOf sliceBits
  rw [this, hsize, hlittle, hsigned, hfloat]

theorem id_roundtrip_dbc (a : ArbId) (hv : Spec.validId a.id a.ext = true) : parseIdDbc (emitIdDbc a) = .ok a :=
  C09.compound_roundtrip a hv

theorem id_roundtrip_plain (a : ArbId) (hv : Spec.validId a.id a.ext = true) : parseIdPlain (emitIdPlain a) = .ok a :=
  ArbId.make_ok a.id a.ext hv

/-! non-vacuity -/
example : emitPos .dbf { name := "s", start := 4, size := 12, little := false } = 8 := by decide
example : splitByteBit 8 = (2, 0) := by decide
example : parsePos .dbf false 12 8 = some 4 := by decide

end CanVerif.C06
