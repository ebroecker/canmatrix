import CanVerif.Model.Codec
import CanVerif.Spec.Bits
import CanVerif.Proofs.Codec
/-!
# C01 — decoding reads exactly the convention's bits; wrong-length payloads are refused

All theorems are for an arbitrary frame length (`p.length` bytes, not only ≤ 64), any in-frame
placement `inFrame s p.length := s.start + s.size ≤ 8·len ∧ 1 ≤ s.size`, any payload.
-/
namespace CanVerif.C01
open CanVerif

/-- Intel: the start bit is the least significant bit, significance grows with the address. -/
theorem decode_intel_eq_spec (s : Sig) (p : List Nat) (h : inFrame s p.length)
    (hl : s.little = true) (hf : s.isFloat = false) (hs : s.signed = false) :
    rawOf s p = (specSum (fun i => payloadBit p (s.start + i)) s.size : Int) := by
  rw [rawOf_eq_decodedValue s p h]
  simp [decodedValue, hf, hs, specRaw, sigAddr, hl]

/-- The address of significance `i` of a Motorola signal is reached by walking the sawtooth from
the most significant bit (links `sigAddr`, used by every other theorem, to the convention). -/
theorem motorola_sigAddr_sawtooth (start size i : Nat) (hi : i < size) :
    sigAddr false start size i = sawWalk (size - 1 - i) (flipN start) := by
  simp only [sigAddr, Bool.false_eq_true, if_false, sawWalk_flipN]; congr 1; omega

/-- Motorola: bits run from the most significant bit (at the DBC start bit `flipN s.start`)
downwards inside a byte and continue at bit 7 of the next byte (`sawWalk`). -/
theorem decode_motorola_eq_spec (s : Sig) (p : List Nat) (h : inFrame s p.length)
    (hl : s.little = false) (hf : s.isFloat = false) (hs : s.signed = false) :
    rawOf s p = (specSum (fun i => payloadBit p (sawWalk (s.size - 1 - i) (flipN s.start))) s.size : Int) := by
  rw [rawOf_eq_decodedValue s p h]
  simp only [decodedValue, hf, hs, Bool.false_eq_true, if_false, specRaw, hl]
  congr 1
  exact specSum_congr _ _ _ fun i hi => by rw [motorola_sigAddr_sawtooth _ _ _ hi]

/-- The value read, as a function of the `size`-bit pattern. -/
theorem rawOf_eq (s : Sig) (p : List Nat) (h : inFrame s p.length) :
    rawOf s p = unpackBits s.isFloat s.signed
      (sliceBits s (bigBits p) (littleBits p) (8 * p.length)) := rfl

theorem head_of_slice (l : List Bool) (hl : 1 ≤ l.length) :
    (l.head? == some true) = decide (bitsToNat l ≥ 2 ^ (l.length - 1)) :=
  head?_eq_msb l hl

/-- Signed signals are two's complement. -/
theorem decode_signed_twos_complement (s : Sig) (p : List Nat) (h : inFrame s p.length)
    (hf : s.isFloat = false) (hs : s.signed = true) :
    rawOf s p = specSigned (specRaw p s.little s.start s.size) s.size := by
  rw [rawOf_eq_decodedValue s p h]
  simp [decodedValue, hf, hs]

/-- Unsigned integer signals: the plain number formed by the bits. -/
theorem decode_unsigned (s : Sig) (p : List Nat) (h : inFrame s p.length)
    (hf : s.isFloat = false) (hs : s.signed = false) :
    rawOf s p = (specRaw p s.little s.start s.size : Int) := by
  rw [rawOf_eq_decodedValue s p h]
  simp [decodedValue, hf, hs]

/-- Float signals: the value handed to IEEE-754 conversion is exactly the pattern of those bits
(`struct.unpack` itself is trusted, see DESIGN §3). -/
theorem decode_float_pattern (s : Sig) (p : List Nat) (h : inFrame s p.length) (hf : s.isFloat = true) :
    rawOf s p = (specRaw p s.little s.start s.size : Int) := by
  rw [rawOf_eq_decodedValue s p h]
  simp [decodedValue, hf]

/-- No other payload bit influences the value: payloads of equal length that agree on the
signal's addresses decode the signal equally. -/
theorem decode_only_sigAddrs (s : Sig) (p q : List Nat) (hlen : p.length = q.length)
    (h : inFrame s p.length)
    (hagree : ∀ i, i < s.size → payloadBit p (sigAddr s.little s.start s.size i)
                               = payloadBit q (sigAddr s.little s.start s.size i)) :
    rawOf s p = rawOf s q := by
  rw [rawOf_eq_decodedValue s p h, rawOf_eq_decodedValue s q (hlen ▸ h)]
  exact congrArg (decodedValue s) (specSum_congr _ _ _ hagree)

/-- Every one of the signal's bits matters: equal decoded values force equal bits at every
address of the signal ("exactly": no bit of the signal is ignored). -/
theorem decode_each_sigAddr (s : Sig) (p q : List Nat) (hlen : p.length = q.length)
    (h : inFrame s p.length) (heq : rawOf s p = rawOf s q) :
    ∀ i, i < s.size → payloadBit p (sigAddr s.little s.start s.size i)
                     = payloadBit q (sigAddr s.little s.start s.size i) := by
  rw [rawOf_eq_decodedValue s p h, rawOf_eq_decodedValue s q (hlen ▸ h)] at heq
  exact specSum_inj _ _ _ (decodedValue_inj s (specSum_lt _ _) (specSum_lt _ _) heq)

theorem length_rule_equal (size : Nat) (data : List Nat) (at_ ae : Bool) (h : data.length = size) :
    fitLength size data at_ ae = .ok data := by simp [fitLength, h]

theorem length_rule_short (size : Nat) (data : List Nat) (ae : Bool) (h : data.length < size) :
    fitLength size data true ae = .ok (data ++ List.replicate (size - data.length) 0xFF) ∧
    fitLength size data false ae = .error .frameLength := by
  simp [fitLength_eq_fit, Spec.fit, Nat.ne_of_lt h, h]

theorem length_rule_long (size : Nat) (data : List Nat) (at_ : Bool) (h : data.length > size) :
    fitLength size data at_ true = .ok (data.take size) ∧
    fitLength size data at_ false = .error .frameLength := by
  simp [fitLength_eq_fit, Spec.fit, Nat.ne_of_gt h, Nat.lt_asymm h]

/-- With the opt-in a short payload is read exactly as if padded with 0xFF bytes. -/
theorem truncated_equiv_padded (f : Frame) (data : List Nat) (ae : Bool) (h : data.length < f.size) :
    f.unpack data true ae = f.unpack (data ++ List.replicate (f.size - data.length) 0xFF) false false := by
  unfold Frame.unpack
  rw [(length_rule_short f.size data ae h).1]
  rw [length_rule_equal f.size _ false false (by simp; omega)]

/-- With the opt-in a long payload is read exactly as if cut to the declared length. -/
theorem exceeded_equiv_cut (f : Frame) (data : List Nat) (at_ : Bool) (h : data.length > f.size) :
    f.unpack data at_ true = f.unpack (data.take f.size) false false := by
  unfold Frame.unpack
  rw [(length_rule_long f.size data at_ h).1]
  rw [length_rule_equal f.size _ false false (by simp; omega)]

/-- A payload of the wrong length is refused by `decode` with the length error before anything is
read - for plain, multiplexed, extended-multiplexed and PDU-container frames alike. -/
theorem length_check_first (f : Frame) (data : List Nat) (h : data.length ≠ f.size) :
    f.decode data = .error .frameLength := by
  simp [Frame.decode, Frame.unpack, fitLength_eq_fit, Spec.fit, h]

/-- the same for `unpack` without opt-in -/
theorem unpack_refuses_wrong_length (f : Frame) (data : List Nat) (h : data.length ≠ f.size) :
    f.unpack data false false = .error .frameLength := by
  simp [Frame.unpack, fitLength_eq_fit, Spec.fit, h]

theorem dictSet_fold_nodup (sigs : List Sig) (g : Sig → Int) (acc : List (String × Int))
    (hnd : (sigs.map (·.name)).Nodup) (hdis : ∀ s ∈ sigs, ∀ kv ∈ acc, kv.1 ≠ s.name) :
    sigs.foldl (fun a s => dictSet a s.name (g s)) acc = acc ++ sigs.map (fun s => (s.name, g s)) :=
  foldl_dictSet_nodup sigs g acc hnd hdis

/-- Decoding a plain frame with a payload of the declared length yields, for every signal, the
value of its own bit field (signal names unique within the frame). -/
theorem decode_plain (f : Frame) (data : List Nat) (hlen : data.length = f.size)
    (hplain : f.complexMux = false ∧ f.isMultiplexed = false ∧ f.isContainer = false)
    (hnd : (f.sigs.map (·.name)).Nodup) :
    f.decode data = .ok (f.sigs.map fun s => (s.name, rawOf s data)) := by
  obtain ⟨h1, h2, h3⟩ := hplain
  unfold Frame.decode
  rw [unpack_ok f data hnd h3 hlen]
  simp [h1, h2]

/-! ## non-vacuity: the test-suite's A1..A8 frame with a 12-bit Motorola signal crossing a byte -/
def exSig : Sig := { name := "s", start := 4, size := 12, little := false }
example : inFrame exSig 8 := by unfold inFrame exSig; decide
example : rawOf exSig [0xA1, 0xA2, 0xA3, 0xA4, 0xA5, 0xA6, 0xA7, 0xA8] = 0x1A2 := by decide
example : rawOf { exSig with little := true } [0xA1, 0xA2, 0xA3, 0xA4, 0xA5, 0xA6, 0xA7, 0xA8] = 0xA2A := by decide
example : rawOf { exSig with signed := true, size := 8, start := 0 } [0xA1, 0xA2] = -95 := by decide

end CanVerif.C01
