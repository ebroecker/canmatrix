import CanVerif.Model.DbcText
import CanVerif.Spec.DbcRT
import CanVerif.Proofs.DbcText
import CanVerif.Proofs.DbcLex
import CanVerif.Props.C04
/-!
# C15 - readers recover what a well-formed file describes, whoever wrote it: the lexical freedom of DBC statements and
the renderings of a number

The `SG_` / `BO_` statement readers of Model/DbcText.lean (compared with the real reader line by line) accept every
admissible spacing of a statement - any number of blanks (at least one where the grammar separates two words) before the
keyword, between the tokens, around the punctuation, after the commas of the receiver list - and every number text
`Decimal` understands, and return the described signal / frame in all of them.  A number text
`[sign] digits [. digits] [E|e [sign] digits]` is read as the value it denotes, so `1E-3`, `0.001`, `1e-03`, `0.0010`
give equal values.  (The canonical spacing and `format_float` renderings of C05 are one instance.)
Last part, ARXML: a rational COMPU coefficient with a denominator is read exactly when the quotient is a finite decimal.
-/
namespace CanVerif.C15
open CanVerif CanVerif.Dbc

/-- a well-formed number text is read as the decimal it denotes -/
theorem number_text_value (n : NumText) (h : n.wf = true) :
    ∃ d, n.denotes = some d ∧ strToDec n.render = some d :=
  number_text_value' n h

/-- ... so two texts that denote equal values are read as equal values -/
theorem number_renderings_equal (a b : NumText) (ha : a.wf = true) (hb : b.wf = true) (da db : Dec)
    (hda : a.denotes = some da) (hdb : b.denotes = some db) (heq : SpecRT.decEq da db = true) :
    ∃ ra rb, strToDec a.render = some ra ∧ strToDec b.render = some rb ∧ SpecRT.decEq ra rb = true := by
  obtain ⟨d, h1, h2⟩ := number_text_value' a ha
  obtain ⟨d', h1', h2'⟩ := number_text_value' b hb
  rw [hda] at h1; rw [hdb] at h1'
  cases h1; cases h1'
  exact ⟨da, db, h2, h2', heq⟩

/-- every character of a well-formed number text is accepted by the statement patterns (`[0-9.+\-eE]`) -/
theorem number_text_valid (n : NumText) (h : n.wf = true) : validNum n.render = true :=
  number_text_valid' n h

/-! ## statements in any admissible spacing -/

/-- an `SG_` line in any admissible spacing and with any admissible number texts is read as the described signal -/
theorem sg_lex_roundtrip (lx : SgLex) (nm : SgNums) (s : SgLine) (h : wfSg s = true) (hl : lexOk lx nm s.tag = true) :
    parseSg (stripWs (renderSgLex lx nm s)) = some (withNums nm s) :=
  parseSg_renderSgLex lx nm s h hl

/-- the spacing does not matter: two spacings of the same statement are read alike -/
theorem sg_spacing_irrelevant (lx lx' : SgLex) (nm : SgNums) (s : SgLine) (h : wfSg s = true)
    (hl : lexOk lx nm s.tag = true) (hl' : lexOk lx' nm s.tag = true) :
    parseSg (stripWs (renderSgLex lx nm s)) = parseSg (stripWs (renderSgLex lx' nm s)) := by
  rw [parseSg_renderSgLex lx nm s h hl, parseSg_renderSgLex lx' nm s h hl']

/-- a `BO_` line in any admissible spacing is read as the described frame -/
theorem bo_lex_roundtrip (lx : BoLex) (b : BoLine) (h : wfBo b = true) (hl : boLexOk lx = true) :
    parseBo (stripWs (renderBoLex lx b)) = some b :=
  parseBo_renderBoLex lx b h hl

/-- the writer's own rendering is one of the spacings -/
theorem renderSg_is_lex (s : SgLine) :
    renderSg s = renderSgLex {} ⟨formatFloat s.factor, formatFloat s.offset, formatFloat s.min, formatFloat s.max⟩ s :=
  renderSg_lex_default s

/-! ## ARXML: rational coefficients with a denominator (`decode_compu_method`: factor = n₁ / d, offset = n₀ / d in `Decimal`) -/

/-- When the quotient is a finite decimal of at most 28 digits (`a · 10^j = b · q`), `Decimal` division is exact:
`a / b` has exactly the value `±q · 10^(a.exp − b.exp − j)`.  So a COMPU-RATIONAL-COEFFS entry with numerators (n₀, n₁) and a
denominator d ≠ 1 (2, 4, 5, 8, 10, 0.5 …) is read as the same factor and offset as the equivalent entry with denominator 1. -/
theorem compu_rational_exact (a b : Dec) (q j : Nat) (hb : b.coeff ≠ 0)
    (ha : nd a.coeff ≤ PREC) (hbn : nd b.coeff ≤ PREC) (hq : a.coeff * 10 ^ j = b.coeff * q) (hqn : nd q ≤ PREC) :
    Spec.Ex.eqv (C04.exOf (Dec.div a b)) ⟨(if a.neg != b.neg then -(q : Int) else (q : Int)), a.exp - b.exp - (j : Int)⟩ = true :=
  div_exact_eqv a b q j hb hq hqn

example : Dec.div ⟨true, 80, 0⟩ ⟨false, 2, 0⟩ = ⟨true, 40, 0⟩ := by decide +kernel
example : Dec.div ⟨false, 1, 0⟩ ⟨false, 4, 0⟩ = ⟨false, 25, -2⟩ := by decide +kernel

/-! ## non-vacuity -/

def exNum1 : NumText := { ip := "1".toList, exp := some (false, true, "3".toList) }
def exNum2 : NumText := { ip := "0".toList, fp := some "0010".toList }

example : String.ofList exNum1.render = "1E-3" ∧ String.ofList exNum2.render = "0.0010" := by decide +kernel
example : exNum1.wf = true ∧ exNum2.wf = true := by decide +kernel
example : exNum1.denotes = some ⟨false, 1, -3⟩ ∧ exNum2.denotes = some ⟨false, 10, -4⟩ := by decide +kernel
example : SpecRT.decEq ⟨false, 1, -3⟩ ⟨false, 10, -4⟩ = true := by decide +kernel

end CanVerif.C15
