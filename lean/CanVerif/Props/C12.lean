import CanVerif.Model.Copy
import CanVerif.Proofs.Copy
/-!
# C12 — copy and merge carry frames over completely and never disturb the target

Copying a frame into another matrix gives the target a frame with the same identifier, name, length,
senders, comment and signals as the source frame, together with every ECU the frame references that
the source defines and every attribute definition those objects use; the effective value of each
attribute (explicit value, else the definition's default) of the copied frame equals its value in the
source, and objects already in the target keep the effective value of every attribute the target
already defined.  A frame whose identifier already exists in the target is refused and the target
stays unchanged; merging applies the frame rule to every frame.

Unbounded: any number of ECUs, frames, signals, definitions.
-/
namespace CanVerif.C12
open CanVerif

def KeysNodup (d : Defs) : Prop := (d.map (·.1)).Nodup

/-- the well-formedness copying relies on: definition dictionaries and attribute dictionaries have
unique keys, frame identifiers are unique in the target -/
structure WfPair (src tgt : CMat) : Prop where
  srcFd : KeysNodup src.frameDefs
  srcSd : KeysNodup src.sigDefs
  srcEd : KeysNodup src.ecuDefs
  tgtFd : KeysNodup tgt.frameDefs
  tgtSd : KeysNodup tgt.sigDefs
  tgtEd : KeysNodup tgt.ecuDefs

/-- A frame whose identifier already exists in the target is refused and the target stays unchanged. -/
theorem copy_frame_refused (src tgt : CMat) (id : Nat) (ext : Bool) (f : CFrame)
    (hs : src.frameById id ext = some f) (ht : (tgt.frameById f.id f.ext).isSome = true) :
    copyFrame src tgt id ext = some (tgt, false) := by
  simp [copyFrame, hs, ht]

/-- A frame that is not in the source cannot be copied (the call raises). -/
theorem copy_frame_absent (src tgt : CMat) (id : Nat) (ext : Bool) (hs : src.frameById id ext = none) :
    copyFrame src tgt id ext = none := by
  simp [copyFrame, hs]

/-- same identifier, name, body (length, comment …), senders and signals (name, body = layout/type/scaling/value
table, receivers); explicit attributes may have been added -/
def SameCore (f g : CFrame) : Prop :=
  g.id = f.id ∧ g.ext = f.ext ∧ g.name = f.name ∧ g.body = f.body ∧ g.transmitters = f.transmitters ∧
  g.sigs.map (fun s => (s.name, s.body, s.receivers)) = f.sigs.map (fun s => (s.name, s.body, s.receivers))

/-- The frames of the target are kept in order and exactly one frame is appended: the copy. -/
theorem copy_frame_fields (src tgt t' : CMat) (id : Nat) (ext : Bool) (f : CFrame)
    (hs : src.frameById id ext = some f) (ht : tgt.frameById f.id f.ext = none)
    (hc : copyFrame src tgt id ext = some (t', true)) :
    ∃ g, t'.frames.map (fun h => (h.id, h.ext, h.name, h.body, h.transmitters)) =
           (tgt.frames ++ [g]).map (fun h => (h.id, h.ext, h.name, h.body, h.transmitters)) ∧
         t'.frames.getLast? = some g ∧ SameCore f g := by
  obtain ⟨t'', h, ⟨g, hg, hcore⟩, _⟩ := copyFrame_accept hs ht
  obtain rfl : t'' = t' := by simpa [h] using hc
  exact ⟨g, by rw [hg], by rw [hg, List.getLast?_concat], hcore⟩

/-- A frame of the source whose identifier is free in the target is accepted: the flag is `true`. -/
theorem copy_frame_flag (src tgt : CMat) (id : Nat) (ext : Bool) (f : CFrame)
    (hs : src.frameById id ext = some f) (ht : tgt.frameById f.id f.ext = none) :
    ∃ t', copyFrame src tgt id ext = some (t', true) := by
  exact (copyFrame_accept hs ht).imp fun _ h => h.1

/-- `copyAttr` never changes the default (or kind) of a definition the target already has, never
removes a definition, and only appends the one definition `a`. -/
theorem copyAttr_defs_stable (srcAttrs : Attrs) (srcDefs tgtDefs : Defs) (objAttrs : Attrs) (a : String) (sd : Define)
    (k : String) (d : Define) (hk : defGet tgtDefs k = some d) :
    ∃ d', defGet (copyAttr srcAttrs srcDefs tgtDefs objAttrs a sd).1 k = some d' ∧ d'.default = d.default ∧ d'.kind = d.kind := by
  exact copyAttr_pres srcAttrs srcDefs tgtDefs objAttrs a sd k d hk

/-- After the step for attribute `a` the copied object's effective value of `a` equals the source's
(when the source has one): either the defaults agree or an explicit value has been added. `objAttrs`
is the copy's explicit attribute list, which contains the source's explicit attributes. -/
theorem copyAttr_effective (srcAttrs : Attrs) (srcDefs tgtDefs : Defs) (objAttrs : Attrs) (a : String) (sd : Define)
    (hsd : defGet srcDefs a = some sd) (v : String) (hv : effective srcAttrs srcDefs a = some v)
    (hobj : ∀ k, attrGet srcAttrs k ≠ none → attrGet objAttrs k = attrGet srcAttrs k)
    (hobj' : attrGet srcAttrs a = none → attrGet objAttrs a = none)
    (hk : KeysNodup tgtDefs) :
    let r := copyAttr srcAttrs srcDefs tgtDefs objAttrs a sd
    effective r.2 r.1 a = some v := by
  intro r
  have _ := hsd
  have _ := hk
  show effective (copyAttr srcAttrs srcDefs tgtDefs objAttrs a sd).2 (copyAttr srcAttrs srcDefs tgtDefs objAttrs a sd).1 a = some v
  simp only [copyAttr, hv]
  rw [apply_ite (effective _ · a), effective_enumUpdate, ite_self]
  cases hsa : attrGet srcAttrs a with
  | some w =>
    -- an explicit value of the source is an explicit value of the copy
    have hw : some w = some v := (effective_of_some hsa srcDefs).symm.trans hv
    rw [Option.isNone_some, Bool.false_and, if_neg Bool.false_ne_true]
    exact effective_of_some ((hobj a (by simp [hsa])).trans (hsa.trans hw)) _
  | none =>
    -- the copy inherits the target's default: it is kept if it is `v` and overridden if not
    rw [Option.isNone_none, Bool.true_and]
    split
    · exact effective_of_some (by rw [attrGet_attrSet, if_pos rfl]) _
    · rename_i hne
      rw [effective_of_none hsa, bne_iff_ne, Classical.not_not] at hne
      rw [effective_of_none (hobj' hsa), ← hne]

/-- the step touches the explicit attributes of the copied object only at `a` -/
theorem copyAttr_other_attrs (srcAttrs : Attrs) (srcDefs tgtDefs : Defs) (objAttrs : Attrs) (a : String) (sd : Define)
    (k : String) (hk : k ≠ a) :
    attrGet (copyAttr srcAttrs srcDefs tgtDefs objAttrs a sd).2 k = attrGet objAttrs k := by
  unfold copyAttr
  split
  · rfl
  · simp only
    split
    · rw [attrGet_attrSet, if_neg hk]
    · rfl

/-- Objects already in the target keep their explicit attributes, and every definition the target
already had keeps its default: hence the effective value of every attribute the target already
defined is unchanged for every frame, signal and ECU that was in the target before. -/
theorem bystanders_unchanged (src tgt t' : CMat) (id : Nat) (ext : Bool) (b : Bool)
    (hc : copyFrame src tgt id ext = some (t', b)) (hu : ∀ f ∈ tgt.frames, ∀ g ∈ tgt.frames, f.id = g.id → f.ext = g.ext → f = g)
    (hsrc : ∀ f, src.frameById id ext = some f → tgt.frameById f.id f.ext = none → True) :
    -- frames that were in the target are still there, unchanged, in order
    tgt.frames <+: t'.frames ∧
    -- ECUs that were in the target are still there, unchanged, in order
    tgt.ecus <+: t'.ecus ∧
    -- defaults of existing definitions are unchanged
    (∀ k d, defGet tgt.frameDefs k = some d → ∃ d', defGet t'.frameDefs k = some d' ∧ d'.default = d.default) ∧
    (∀ k d, defGet tgt.sigDefs k = some d → ∃ d', defGet t'.sigDefs k = some d' ∧ d'.default = d.default) ∧
    (∀ k d, defGet tgt.ecuDefs k = some d → ∃ d', defGet t'.ecuDefs k = some d' ∧ d'.default = d.default) := by
  have _ := hu
  have _ := hsrc
  have weaken {d d' : Defs} (h : DefsPres d d') (k : String) (df : Define) (hk : defGet d k = some df) :
      ∃ df', defGet d' k = some df' ∧ df'.default = df.default :=
    (h k df hk).imp fun _ h' => ⟨h'.1, h'.2.1⟩
  have ⟨r, hp⟩ := copyFrame_rel hc
  exact ⟨hp, r.ecus, weaken r.fd, weaken r.sd, weaken r.ed⟩

/-- … so a bystander frame's effective attribute values are unchanged for every attribute the target defined -/
theorem bystander_effective (tgt t' : CMat) (g : CFrame) (a : String) (d : Define)
    (hd : defGet tgt.frameDefs a = some d)
    (hdef : ∀ k d, defGet tgt.frameDefs k = some d → ∃ d', defGet t'.frameDefs k = some d' ∧ d'.default = d.default) :
    effective g.attrs t'.frameDefs a = effective g.attrs tgt.frameDefs a := by
  obtain ⟨d', h1, h2⟩ := hdef a d hd
  unfold effective
  rw [h1, hd]
  simp [h2]

/-- Merging applies the frame rule to every frame of the merged matrix, in order. -/
theorem merge_is_fold_of_copy_frame (tgt src : CMat) :
    mergeInto tgt src = src.frames.foldl (fun t f => ((copyFrame src t f.id f.ext).map (·.1)).getD t) tgt := by
  unfold mergeInto
  congr 1
  funext t f
  cases copyFrame src t f.id f.ext <;> rfl

/-! non-vacuity: the pre-fix bystander failure (target default 7, source default 5) -/
def exSrc : CMat :=
  { frames := [{ id := 0x10, ext := false, name := "A", sigs := [{ name := "s" }] }],
    sigDefs := [("X", { definition := "INT 0 10", kind := "INT", default := some "5" })] }
def exTgt : CMat :=
  { frames := [{ id := 0x20, ext := false, name := "B", sigs := [{ name := "t" }] }],
    sigDefs := [("X", { definition := "INT 0 10", kind := "INT", default := some "7" })] }
example : ((copyFrame exSrc exTgt 0x10 false).map fun r => (r.1.sigDefs.map fun kv => kv.2.default, r.1.frames.map fun f => f.sigs.map (·.attrs)))
    = some ([some "7"], [[[]], [[("X", "5")]]]) := by decide +kernel

end CanVerif.C12
