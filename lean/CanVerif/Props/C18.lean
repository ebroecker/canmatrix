import CanVerif.Model.Convert
import CanVerif.Spec.ConvertSpec
import CanVerif.Proofs.Convert
/-!
# C18 - canconvert options have exactly their documented effect

`Conv.convert` transcribes the option pipeline of convert.py step by step (first-match lookups, the frames' cached
receiver lists); `ConvSpec.expected` states the documented effect of each option as a filter or map and nothing
else.  Theorems: without options the matrix is unchanged; for each option alone, on a matrix whose names identify
its frames, signals and ECUs, the pipeline yields exactly the documented effect (so every frame, signal, ECU and
attribute the clause does not mention is copied unchanged); the length thresholds are strict (`>`), a frame
of exactly the threshold length is untouched; recalculated lengths are the least / never smaller.
The combination `deleteObsoleteEcus` + an option that removes signals is NOT covered: there the pipeline keeps
ECUs the documentation says are deleted (`obsolete_ecus_stale_witness`, known finding).
-/
namespace CanVerif.C18
open CanVerif CanVerif.Conv CanVerif.ConvSpec

/-- no manipulation option: the output is the input -/
theorem no_options (m : KMat) : (convert {} m).map core = some (core m) :=
  Conv.convert_core_plain _ m ⟨.inl rfl, .inl ⟨rfl, rfl, rfl⟩⟩

/-! ## one option at a time: pipeline = documented effect
(in the proofs, `.inl rfl`: the option is not one of those whose step asks something of the matrix, see `Conv.needs`) -/

theorem deleteFrame_alone (m : KMat) (ns : List String) (h : uniqueNames m) :
    (convert { deleteFrame := some ns } m).map core = (expected { deleteFrame := some ns } m).map core :=
  Conv.convert_core_plain _ m ⟨.inl rfl, .inr h.1⟩

theorem setFrameFd_alone (m : KMat) (ns : List String) (h : uniqueNames m) :
    (convert { setFrameFd := some ns } m).map core = (expected { setFrameFd := some ns } m).map core :=
  Conv.convert_core_plain _ m ⟨.inl rfl, .inr h.1⟩

theorem unsetFrameFd_alone (m : KMat) (ns : List String) (h : uniqueNames m) :
    (convert { unsetFrameFd := some ns } m).map core = (expected { unsetFrameFd := some ns } m).map core :=
  Conv.convert_core_plain _ m ⟨.inl rfl, .inr h.1⟩

theorem skipLongDlc_alone (m : KMat) (t : Nat) :
    (convert { skipLongDlc := some t } m).map core = (expected { skipLongDlc := some t } m).map core :=
  Conv.convert_core_plain _ m ⟨.inl rfl, .inl ⟨rfl, rfl, rfl⟩⟩

theorem cutLongFrames_alone (m : KMat) (t : Nat) :
    (convert { cutLongFrames := some t } m).map core = (expected { cutLongFrames := some t } m).map core :=
  Conv.convert_core_plain _ m ⟨.inl rfl, .inl ⟨rfl, rfl, rfl⟩⟩

theorem recalcDLC_alone (m : KMat) (force : Bool) :
    (convert { recalcDLC := some force } m).map core = (expected { recalcDLC := some force } m).map core :=
  Conv.convert_core_plain _ m ⟨.inl rfl, .inl ⟨rfl, rfl, rfl⟩⟩

theorem deleteSignal_alone (m : KMat) (pats : List String) :
    (convert { deleteSignal := some pats } m).map core = (expected { deleteSignal := some pats } m).map core :=
  Conv.convert_core_plain _ m ⟨.inl rfl, .inl ⟨rfl, rfl, rfl⟩⟩

theorem deleteZeroSignals_alone (m : KMat) :
    (convert { deleteZeroSignals := true } m).map core = (expected { deleteZeroSignals := true } m).map core :=
  Conv.convert_core_plain _ m ⟨.inl rfl, .inl ⟨rfl, rfl, rfl⟩⟩

theorem deleteSignalAttributes_alone (m : KMat) (ns : List String) :
    (convert { deleteSignalAttributes := some ns } m).map core = (expected { deleteSignalAttributes := some ns } m).map core :=
  Conv.convert_core_plain _ m ⟨.inl rfl, .inl ⟨rfl, rfl, rfl⟩⟩

theorem deleteFrameAttributes_alone (m : KMat) (ns : List String) :
    (convert { deleteFrameAttributes := some ns } m).map core = (expected { deleteFrameAttributes := some ns } m).map core :=
  Conv.convert_core_plain _ m ⟨.inl rfl, .inl ⟨rfl, rfl, rfl⟩⟩

theorem changeFrameId_alone (m : KMat) (ps : List (Nat × Nat)) :
    (convert { changeFrameId := some ps } m).map core = (expected { changeFrameId := some ps } m).map core :=
  Conv.convert_core_plain _ m ⟨.inl rfl, .inl ⟨rfl, rfl, rfl⟩⟩

theorem addFrameReceiver_alone (m : KMat) (ps : List (String × String)) :
    (convert { addFrameReceiver := some ps } m).map core = (expected { addFrameReceiver := some ps } m).map core :=
  Conv.convert_core_plain _ m ⟨.inl rfl, .inl ⟨rfl, rfl, rfl⟩⟩

/-- (the frames' own receiver lists are what a reader leaves: empty or the receivers of the signals) -/
theorem deleteObsoleteEcus_alone (m : KMat) (hf : ∀ f ∈ m.frames, f.frx = [] ∨ f.frx = frameReceivers f) :
    (convert { deleteObsoleteEcus := true } m).map core = (expected { deleteObsoleteEcus := true } m).map core :=
  Conv.alone Conv.stepObs sObsoleteEcus Conv.obs_A Conv.sObs_B (Conv.fresh_init hf)

/-- without that hypothesis the statement is false: a stale receiver list keeps an ECU alive -/
theorem deleteObsoleteEcus_needs_fresh_receiver_lists :
    ¬ ((convert { deleteObsoleteEcus := true } Conv.staleFrxEx).map core = (expected { deleteObsoleteEcus := true } Conv.staleFrxEx).map core) :=
  Conv.deleteObsoleteEcus_alone_false

/-- one exact signal name (no `*` form), signal names unique within each frame -/
theorem renameSignal_exact_alone (m : KMat) (old new : String) (h : uniqueNames m)
    (ho : old.toList.getLast? ≠ some '*' ∧ old.toList.head? ≠ some '*') :
    (convert { renameSignal := some [(old, new)] } m).map core = (expected { renameSignal := some [(old, new)] } m).map core :=
  Conv.alone (Conv.stepRenameSignal · (old, new)) (sRenameSignal · (old, new)) (Conv.renameSignal_exact_A old new ho)
    (Conv.sRenameSignal_B · _) (Conv.sigNamesNodup_init h)

/-- one ECU pattern; ECU names unique, no ECU listed twice as sender of a frame or receiver of a signal -/
theorem deleteEcu_alone (m : KMat) (pat : String) (h : uniqueNames m)
    (hr : ∀ f ∈ m.frames, f.tx.Nodup ∧ ∀ s ∈ f.sigs, s.receivers.Nodup) :
    (convert { deleteEcu := some [pat] } m).map core = (expected { deleteEcu := some [pat] } m).map core :=
  Conv.convert_core_plain _ m ⟨.inr ⟨h.2.2, hr⟩, .inl ⟨rfl, rfl, rfl⟩⟩

/-- without that hypothesis the statement is false: `del_ecu` removes one occurrence of a name listed twice
(the example has unique names: `Conv.dupTxEx_uniqueNames`) -/
theorem deleteEcu_needs_nodup_references :
    ¬ ((convert { deleteEcu := some ["A"] } Conv.dupTxEx).map core = (expected { deleteEcu := some ["A"] } Conv.dupTxEx).map core) :=
  Conv.deleteEcu_alone_false


/-! ## any combination of the options that neither select nor rename -/

/-- the options of this theorem: everything except the selections (`ecus`, `frames`), the renames and `deleteObsoleteEcus`
(whose combination with a signal-removing option is the known finding) -/
def plainOptions (o : Opts) : Prop :=
  o.ecus = none ∧ o.frames = none ∧ o.renameEcu = none ∧ o.renameFrame = none ∧ o.renameSignal = none ∧ o.deleteObsoleteEcus = false

/-- every set of such options at once (in particular every pair): the pipeline yields exactly the documented effects,
applied in the documented order, on matrices whose names identify their objects and whose reference lists have no duplicates -/
theorem plain_options_combined (o : Opts) (m : KMat) (ho : plainOptions o) (h : uniqueNames m)
    (hr : ∀ f ∈ m.frames, f.tx.Nodup ∧ ∀ s ∈ f.sigs, s.receivers.Nodup) :
    (convert o m).map core = (expected o m).map core :=
  Conv.convert_core_plain o m ⟨.inr ⟨h.2.2, hr⟩, .inr h.1⟩ ho

/-! ## renaming with the `*` forms -/

/-- the pattern has its `*` (if any) only as last or only as first character, and is not the lone `*` in front of nothing -/
def plainPattern (old : String) : Prop :=
  let o := old.toList
  o ≠ [] ∧ (∀ c ∈ o.dropLast.drop 1, c ≠ '*') ∧ ¬ (o.head? = some '*' ∧ o.getLast? = some '*' ∧ 2 ≤ o.length)

/-- `rename_frame` (two independent `if`s and an `elif`) does what the documentation says for such patterns: replace the prefix,
replace the suffix, or rename the frame of exactly that name - for names without `*` (identifier-style names) -/
theorem renameFrameName_documented (old new name : String) (hp : plainPattern old) (hn : '*' ∉ name.toList) :
    renameFrameName old new name = sRenameName old new name :=
  Conv.renameFrameName_documented_of_last old new name hp fun _ hl => hn (List.mem_of_getLast? hl)

/-- without that hypothesis the statement is false: the exact comparison of `rename_frame` looks at the already renamed name, so a
frame called `A*` is renamed twice by the pattern `A*` (a plain pattern: `Conv.starPat_plain`; for a whole matrix:
`Conv.renameFrame_alone_false`) -/
theorem renameFrameName_needs_star_free_names :
    renameFrameName "A*" "A" "A*" ≠ sRenameName "A*" "A" "A*" :=
  Conv.renameFrameName_documented_false

/-- `--renameFrame` alone -/
theorem renameFrame_alone (m : KMat) (old new : String) (hp : plainPattern old) (hn : ∀ f ∈ m.frames, '*' ∉ f.name.toList) :
    (convert { renameFrame := some [(old, new)] } m).map core = (expected { renameFrame := some [(old, new)] } m).map core :=
  Conv.renameFrame_alone_of_last m old new hp fun _ f hf hl => hn f hf (List.mem_of_getLast? hl)

/-- `--renameSignal` with a `*` form alone (the exact form is `renameSignal_exact_alone`) -/
theorem renameSignal_pattern_alone (m : KMat) (old new : String) (hp : plainPattern old)
    (hs : old.toList.getLast? = some '*' ∨ old.toList.head? = some '*') :
    (convert { renameSignal := some [(old, new)] } m).map core = (expected { renameSignal := some [(old, new)] } m).map core :=
  Conv.alone (inv := fun _ => True) (Conv.stepRenameSignal · (old, new)) (sRenameSignal · (old, new))
    (fun m _ => Conv.renameSignal_pattern_A old new hp hs m) (Conv.sRenameSignal_B · _) trivial

/-! ## thresholds and lengths -/

/-- `skipLongDlc = t`: a frame stays iff its length is at most `t` (the boundary length stays) -/
theorem skipLongDlc_boundary (m r : KMat) (t : Nat) (h : convert { skipLongDlc := some t } m = some r) (f : KFrame) :
    coreF f ∈ (core r).frames ↔ (coreF f ∈ (core m).frames ∧ f.size ≤ t) :=
  Conv.skipLongDlc_boundary_main m r t h f

/-- `cutLongFrames = t`: a frame of at most `t` bytes is untouched -/
theorem cutLong_short_untouched (t : Nat) (f : KFrame) (h : f.size ≤ t) : cutLong t f = f :=
  Conv.cutLong_short t f h

/-- in a longer one a signal stays iff it ends within the first `t` bytes, and the new length is the least one that holds the
remaining signals -/
theorem cutLong_long (t : Nat) (f : KFrame) (h : t < f.size) (s : KSig) :
    (s ∈ (cutLong t f).sigs ↔ (s ∈ f.sigs ∧ s.start + s.size ≤ t * 8)) ∧
    (∀ s ∈ (cutLong t f).sigs, s.start + s.size ≤ (cutLong t f).size * 8) ∧ (cutLong t f).size ≤ t :=
  Conv.cutLong_long_main t f h s

/-- `recalcDLC`: every signal fits into the new length; `force` gives the least such length, `max` never shortens -/
theorem recalc_fits (force : Bool) (f : KFrame) : ∀ s ∈ f.sigs, s.start + s.size ≤ (recalc force f).size * 8 :=
  (Conv.sNeeded_le_iff _ _).1 (Conv.sNeeded_le_recalc force f)

theorem recalc_force_least (f : KFrame) (n : Nat) (h : ∀ s ∈ f.sigs, s.start + s.size ≤ n * 8) : (recalc true f).size ≤ n :=
  (Conv.sNeeded_le_iff _ _).2 h

theorem recalc_max_never_shortens (f : KFrame) : f.size ≤ (recalc false f).size :=
  Nat.le_max_left _ _

/-! ## the excluded combination (known finding): the pipeline keeps an ECU the documentation says is deleted -/

def staleEx : KMat :=
  { ecus := ["A", "B"], frames := [{ name := "F", id := 1, ext := false, size := 1, tx := ["A"], sigs := [{ name := "s", start := 0, size := 1, receivers := ["B"] }] }] }

theorem obsolete_ecus_stale_witness :
    (convert { deleteSignal := some ["s"], deleteObsoleteEcus := true } staleEx).map (·.ecus) = some ["A", "B"] ∧
    (expected { deleteSignal := some ["s"], deleteObsoleteEcus := true } staleEx).map (·.ecus) = some ["A"] := by
  decide +kernel

end CanVerif.C18
