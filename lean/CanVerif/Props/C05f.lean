import CanVerif.Proofs.DbcFileExamples
/-!
# C05 / C20 (continued) — the DBC reader as a whole reads a written file as the sequence of its statements

`readFile` (Model/DbcFile.lean) is the line loop of `dbc.load`: follow-up state for comments over several lines, the `startswith`
dispatcher, one parser per statement kind, the statement's effect on the matrix under construction (frame lookup by identifier, signal
lookup by name, `frame` variable, dictionaries in insertion order) and the count of "error with line no".  It is tied to the real reader
on every generated file - as written and damaged - by the correspondence check (op `whole`).

Here: for ANY sequence of well-formed statements of the thirteen one-line kinds (`BU_:`, `BO_`, `SG_`, empty line, `BO_TX_BU_`, `VAL_`,
`VAL_TABLE_`, `BA_DEF_` on all levels, `BA_DEF_DEF_`, `BA_` on all levels, `SIG_GROUP_`, `SIG_VALTYPE_`, `SG_MUL_VAL_`), in any order
and of any length, every written line is recognised by the dispatcher as the statement it is (no line is an "error with line" because
of its form, none is mistaken for another kind: `BA_DEF_DEF_` is not taken for `BA_DEF_`, `BO_TX_BU_` not for `BO_`, …), and the file is
read as the left fold of the statements' effects.  Lines the reader skips may be scattered anywhere in between; a prefix of the file
is read as the state the complete file passes through.  Comments over several lines: statement-wise in Props/C05d, among the other
statements of a file in `file_with_comments_is_fold` below.
-/
namespace CanVerif.C05f
open CanVerif CanVerif.Dbc

/-- every written statement is taken by the dispatcher for what it is and parsed back -/
theorem statement_recognised (s : Stmt) (h : s.wf = true) :
    scanLine s.line = match s.item with
      | some it => .item it
      | none => .skip :=
  FileProofs.scan_stmt s h

/-- one step of the reader on a written statement is the statement's effect -/
theorem step_is_effect (m : RMatrix) (s : Stmt) (hm : m.pending = none) (h : s.wf = true) :
    stepFile m s.line = applyStmt m s :=
  FileProofs.step_stmt m s hm h

/-- the whole file: reading what was written is the fold of the statements' effects, for every sequence of statements -/
theorem file_is_fold_of_effects (ss : List Stmt) (h : ∀ s ∈ ss, s.wf = true) :
    readFile (writeStmts ss) = ss.foldl applyStmt {} :=
  FileProofs.read_statements ss h {} rfl

/-- no comment is left open at the end of such a file, and none in between -/
theorem no_pending_comment (ss : List Stmt) (h : ∀ s ∈ ss, s.wf = true) : (readFile (writeStmts ss)).pending = none := by
  rw [file_is_fold_of_effects ss h]
  generalize hm : ({} : RMatrix) = m
  have hp : m.pending = none := by rw [← hm]
  clear hm
  induction ss generalizing m with
  | nil => exact hp
  | cons s ss ih =>
    exact ih (fun x hx => h x (List.mem_cons_of_mem _ hx)) _ (FileProofs.applyStmt_pending m s hp)

/-- a comment statement, on one line or over several, read where the reader can recognise it (see `FileStmt.okIn`: for a text over
several lines the frame / identifier / ECU it names must be known at that point), gives the comment to its object -/
theorem comment_statement_effect (m : RMatrix) (h : CmHead) (text : Str) (hm : m.pending = none)
    (hok : (FileStmt.cm h text).okIn m = true) :
    (cmLines h text).foldl stepFile m = applyItem m (.cm h text) :=
  FileProofs.fold_cm m h text hm hok

/-- the whole file with comments over several lines among the statements: any sequence, any length; the follow-up state is left
again after every comment -/
theorem file_with_comments_is_fold (fs : List FileStmt) (hok : okFile {} fs = true) :
    readFile (writeFile fs) = fs.foldl FileStmt.apply {} :=
  FileProofs.read_file fs {} rfl hok

/-- C20 at file level: skipped lines (unknown keyword, only blanks, a pattern that fails behind a guard) anywhere between the
statements change nothing -/
theorem skipped_lines_ignored (isBad : Str → Bool) (hbad : ∀ b, isBad b = true → scanLine b = .skip)
    (ls : List Str) (ss : List Stmt) (hl : ls.filter (fun l => !isBad l) = writeStmts ss) (h : ∀ s ∈ ss, s.wf = true) :
    readFile ls = readFile (writeStmts ss) := by
  rw [file_is_fold_of_effects ss h]
  exact FileProofs.read_with_skipped isBad hbad ls ss hl h {} rfl

/-- a line whose form is wrong where the handler raises only counts as an error; it is not applied -/
theorem error_line_only_counted (m : RMatrix) (b : Str) (hm : m.pending = none) (hb : scanLine b = .error) :
    stepFile m b = { m with errors := m.errors + 1 } :=
  FileProofs.step_error m b hm hb

/-- the counter of printed errors is write-only: no step of the reader looks at it -/
theorem errors_never_read (m : RMatrix) (k : Nat) (line : Str) :
    stepFile { m with errors := m.errors + k } line = { stepFile m line with errors := (stepFile m line).errors + k } :=
  FileProofs.stepFile_addErr m k line

/-- C20 at file level, both fates of a bad line: lines that are skipped and lines whose handler raises on their form, scattered
anywhere between the statements of a written file, change nothing but the number of printed errors - by exactly one per raising line -/
theorem bad_lines_only_counted (isBad : Str → Bool) (hbad : ∀ b, isBad b = true → scanLine b = .skip ∨ scanLine b = .error)
    (ls : List Str) (ss : List Stmt) (hl : ls.filter (fun l => !isBad l) = writeStmts ss) (h : ∀ s ∈ ss, s.wf = true) :
    readFile ls = { readFile (writeStmts ss) with
      errors := (readFile (writeStmts ss)).errors + (ls.filter fun l => isBad l && scanLine l == .error).length } := by
  rw [file_is_fold_of_effects ss h]
  exact FileProofs.read_with_bad isBad hbad ls ss hl h {} rfl

/-- truncation between statements: the prefix is read as the state the complete file passes through -/
theorem prefix_state (pre post : List Stmt) :
    readFile (writeStmts (pre ++ post)) = (writeStmts post).foldl stepFile (readFile (writeStmts pre)) :=
  FileProofs.read_prefix pre post

/-! ## non-vacuity and closed instances (evaluated by the kernel) -/

example : (readFile exFile).frames.map (fun f => (f.key, f.name, f.transmitters)) =
    [((291, false), "Engine".toList, ["ECU_A".toList, "ECU_B".toList])] := by rw [exFile_read]; rfl
example : (readFile exFile).frames.map (fun f => f.comment) = [some "first line\nsecond line".toList] := by rw [exFile_read]; rfl
example : (readFile exFile).frames.map (fun f => f.attrs) = [[("Cycle".toList, "20".toList)]] := by rw [exFile_read]; rfl
example : (readFile exFile).ecus.map (fun e => e.name) = ["ECU_A".toList, "ECU_B".toList] := by rw [exFile_read]; rfl
/-- the non-number for the INT attribute and the statement about an unknown signal are the two printed errors; the unknown keyword is none -/
example : (readFile exFile).errors = 2 := by rw [exFile_read]
example : ((readFile exFile).frames.map fun f => f.sigs.map fun s => (s.sg.name, s.values)) =
    [[("Speed".toList, [(1, "one".toList), (0, "zero".toList)])]] := by rw [exFile_read]; rfl
example : (readFile exFile).defs.map (fun d => (d.name, d.default)) = [("Cycle".toList, some "100".toList)] := by rw [exFile_read]; rfl
/-- a file with comments written by `writeFile` (non-vacuity of `okFile`, and the result) -/
def exStmts : List FileStmt :=
  [.one (.bo ⟨291, "Engine".toList, 8, "ECU_A".toList⟩),
   .cm (.bo 291) "first line \n\n  third \"quoted\" line".toList,
   .cm (.bu "Nobody".toList) "one line for an unknown ECU".toList,
   .one (.tx ⟨291, ["ECU_A".toList, "ECU_B".toList]⟩)]
example : okFile {} exStmts = true := by unfold exStmts; lit_chars; decide +kernel
example : (writeFile exStmts).map String.ofList =
    ["BO_ 291 Engine: 8 ECU_A", "CM_ BO_ 291  \"first line ", "", "  third \\\"quoted\\\" line\";",
     "CM_ BU_ Nobody \"one line for an unknown ECU\";", "BO_TX_BU_ 291 : ECU_A,ECU_B;"] := by unfold exStmts; lit_chars; decide +kernel
example : (readFile (writeFile exStmts)).frames.map (fun f => (f.comment, f.transmitters)) =
    [(some "first line \n\n  third \"quoted\" line".toList, ["ECU_A".toList, "ECU_B".toList])] := by unfold exStmts; lit_chars; decide +kernel
/-- the hypothesis of `file_with_comments_is_fold` is needed: a comment over several lines for an ECU that is not listed is not recognised,
its second line is read as a statement of its own (here: as a frame) -/
example : okFile {} [.cm (.bu "Nobody".toList) "x\nBO_ 5 Ghost: 8 E1".toList] = false ∧
    ((readFile (writeFile [.cm (.bu "Nobody".toList) "x\nBO_ 5 Ghost: 8 E1".toList])).frames.map fun f => f.name) = ["Ghost".toList] := by lit_chars; decide +kernel
/-- the list of ECUs: names of one character are dropped by the reader (hence the envelope of `Stmt.bu`) -/
example : scanLine (renderBu ["ECU_A".toList, "Gw".toList]) = .item (.bu ["ECU_A".toList, "Gw".toList]) := by lit_chars; decide +kernel
example : scanLine "BU_: A Gw".toList = .item (.bu ["Gw".toList]) := by lit_chars; decide +kernel
/-- the dispatcher keeps apart the kinds whose keywords begin alike -/
example : scanLine "BA_DEF_DEF_ \"Cycle\" 100;".toList = .item (.defdef "Cycle".toList "100".toList) := by lit_chars; decide +kernel
example : (Stmt.tx ⟨291, ["A1".toList, "B2".toList]⟩).wf = true := by decide
example : (Stmt.tx ⟨291, ["A1".toList, "B2".toList]⟩).line = "BO_TX_BU_ 291 : A1,B2;".toList := by lit_chars; decide +kernel
/-- bad lines of both kinds between the statements of `exFile`'s good part -/
example : scanLine "FOO_ unknown keyword;".toList = .skip ∧ scanLine "BO_ 12x Name: 8 E1".toList = .error ∧
    scanLine " SG_ cut : 0|8@1+ (1,".toList = .error ∧ scanLine "VAL_ 1 x 1 \"unterminated".toList = .skip ∧
    scanLine "SG_MUL_VAL_ broken".toList = .skip ∧ scanLine "SIG_GROUP_ broken".toList = .error := by lit_chars; decide +kernel
/-- a statement for a standard identifier above 0x7FF is refused as a whole (the identifier cannot be built) -/
example : (readFile ["BO_ 4096 TooBig: 8 E1".toList]).frames = [] ∧ (readFile ["BO_ 4096 TooBig: 8 E1".toList]).errors = 1 := by lit_chars; decide +kernel

end CanVerif.C05f
