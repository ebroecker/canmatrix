import CanVerif.Props.C05n
/-!
# C05 — reading canmatrix's own DBC output reports no line error

`readFile` counts the `error with line no` messages of `dbc.load` (compared with the real reader's count on every generated file, also on
damaged ones: op `whole`).  For every matrix inside the envelope (`WFrame.wf`, `WFrame.wfA`, `wfEcus`, `wfDefs`, `wfDefaults`, `wfAttrs`) the
count after reading `writeCoreF` of it is zero - together with the matrix that was written.  The theorem is the one of Props/C05n for a
matrix without value tables.  Why no statement prints an error (Proofs/DbcStatements `fine_fold`): the identifiers of the frames and the
names of their signals never change after the frame section (`Shaped`), so every later statement finds its frame, the statements that
would raise on a missing signal (`SIG_VALTYPE_`, `BA_ .. SG_`) find their signal, and every attribute value is accepted by the
definitions the file itself has built by then.
-/
namespace CanVerif.C05m
open CanVerif CanVerif.Dbc CanVerif.Dbc.FileProofs

/-- the same round trip, and the reader prints no line error -/
theorem dbc_whole_matrix_roundtrip_without_line_error (es : List WEcu) (hes : wfEcus es = true) (ds : List DefLine) (hds : wfDefs ds = true)
    (dds : List DefDefLine) (hdds : wfDefaults ds dds = true)
    (ga : List (Str × Str)) (hga : wfAttrs (expectDefs ds dds) .global .global ga = true)
    (hea : ∀ e ∈ es, wfAttrs (expectDefs ds dds) .ecu (.ecu e.name) e.attrs = true)
    (ps : List (WFrame × (Nat × Bool))) (hwf : ∀ p ∈ ps, p.1.wf p.2 = true) (hdist : ps.Pairwise fun p q => p.2 ≠ q.2)
    (hfa : ∀ p ∈ ps, p.1.wfA (expectDefs ds dds) = true) :
    (readFile (writeCoreF es ds dds ga (ps.map (·.1)))).ecus = es.map WEcu.expectA ∧
    (readFile (writeCoreF es ds dds ga (ps.map (·.1)))).defs = expectDefs ds dds ∧
    (readFile (writeCoreF es ds dds ga (ps.map (·.1)))).attrs = attrsOf ga ∧
    (readFile (writeCoreF es ds dds ga (ps.map (·.1)))).frames = ps.map (fun p => p.1.expectA p.2) ∧
    (readFile (writeCoreF es ds dds ga (ps.map (·.1)))).pending = none ∧
    (readFile (writeCoreF es ds dds ga (ps.map (·.1)))).errors = 0 := by
  have h := CanVerif.C05n.dbc_whole_file_roundtrip es hes [] rfl ds hds dds hdds ga hga hea ps hwf hdist hfa
  rw [readFile_coreH_nil es hes] at h
  obtain ⟨hecus, hdefs, hattrs, hframes, hpending, herrors, _⟩ := h
  exact ⟨hecus, hdefs, hattrs, hframes, hpending, herrors⟩

/-- a statement whose frame (and, where it must, signal) exists and whose value is accepted prints no error -/
theorem statement_without_error (KS : List ((Nat × Bool) × List Str)) (m : RMatrix) (hP : Shaped KS m) (it : Item) (hf : fine KS it)
    (hok : baOk m.defs it = true) : (applyItem m it).errors = m.errors :=
  fine_errors KS m hP it hf hok

/-- no statement about a frame or a signal changes an identifier or the name of a signal -/
theorem statements_keep_identifiers_and_names (it : Item) (f : RFrame) : sigShape (itemUpdA it f) = sigShape f :=
  itemUpdA_shape it f

/-! ## non-vacuity, and what the hypotheses exclude -/

example : (readFile (writeCoreF CanVerif.C05k.exEcusA CanVerif.C05k.exDefs CanVerif.C05k.exDefaults CanVerif.C05k.exGlobal
    (CanVerif.C05l.exFramesA.map (·.1)))).errors = 0 :=
  (dbc_whole_matrix_roundtrip_without_line_error _ CanVerif.C05k.exEcusA_wf _ CanVerif.C05k.exDefs_wf _ CanVerif.C05k.exDefaults_wf _ CanVerif.C05k.exGlobal_wf CanVerif.C05k.exEcusA_attrs_wf
    _ CanVerif.C05l.exFramesA_wf CanVerif.C05l.exFramesA_distinct CanVerif.C05l.exFramesA_attrs_wf).2.2.2.2.2
/-- a float type for a signal the frame does not have is a line error (the handler raises on `None`) -/
example : (readFile ["BO_ 291 Engine: 8 ECU_A".toList, " SG_ Speed : 0|8@1+ (0.5,0) [0|100] \"km/h\" ECU_B".toList, [],
    "SIG_VALTYPE_ 291 Rpm : 1;".toList]).errors = 1 := by lit_chars; decide +kernel
/-- a comment for a signal the frame does not have is not -/
example : (readFile ["BO_ 291 Engine: 8 ECU_A".toList, " SG_ Speed : 0|8@1+ (0.5,0) [0|100] \"km/h\" ECU_B".toList, [],
    "CM_ SG_ 291 Rpm \"x\";".toList]).errors = 0 := by lit_chars; decide +kernel

end CanVerif.C05m
