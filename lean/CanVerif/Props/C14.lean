import CanVerif.Model.Export
/-!
# C14 — exporting never changes the matrix and is deterministic

This is the property where a theorem carries least (DESIGN §6, C14): whether a writer mutates its
argument is a fact about object aliasing in the Python code, which the model records as
`copiesFirst`/`normalise`; that this record is complete is checked only by the correspondence check
(normal form of the argument before/after every writer, all ordered writer pairs, several hash
seeds).  What is proved: with the recorded footprint the argument is unchanged for every writer and
every matrix, hence a later export sees the same matrix; the three pre-fix writers did change it
(witnesses); and the order in which sym writes its multiplex groups does not depend on the order in
which the set of values is iterated.
-/
namespace CanVerif.C14
open CanVerif

/-- Exporting leaves the caller's matrix unchanged, for every writer and every matrix. -/
theorem touch_identity (w : Writer) (m : EMat) (h : copiesFirst w = true ∨ normalise w = id) :
    (exportEffect w m).1 = m := by
  unfold exportEffect
  rcases h with h | h
  · simp [h]
  · by_cases hc : copiesFirst w = true <;> simp [hc, h]

theorem every_writer_safe (w : Writer) : copiesFirst w = true ∨ normalise w = id := by
  cases w <;> simp [copiesFirst, normalise]

/-- A later export - to the same or any other format - works from exactly the matrix it would have
seen without the earlier export. -/
theorem second_export_same (w1 w2 : Writer) (m : EMat) :
    (exportEffect w2 (exportEffect w1 m).1).2 = (exportEffect w2 m).2 := by
  rw [touch_identity w1 m (every_writer_safe w1)]

/-- the file is written from the normalised matrix whether or not a copy is taken: copying changes
what the caller sees, not what is written -/
theorem written_matrix_same (w : Writer) (m : EMat) : (exportEffect w m).2 = (exportEffectPreFix w m).2 := by
  unfold exportEffect exportEffectPreFix; split <;> rfl

/-! pre-fix witnesses: the three writers changed their argument -/
def exRx : EMat := { ecus := ["A"], frames := [{ name := "F", transmitters := [], receivers := [], sigs := [{ name := "s", receivers := ["A"] }] }] }
theorem arxml_prefix_witness : (exportEffectPreFix .arxml exRx).1 ≠ exRx := by decide +kernel
def exDup : EMat := { ecus := [], frames := [{ name := "F", transmitters := ["A"], receivers := [], sigs := [] },
                                              { name := "F", transmitters := ["B"], receivers := [], sigs := [] }] }
theorem fibex_prefix_witness : (exportEffectPreFix .fibex exDup).1 ≠ exDup := by decide +kernel
theorem kcd_prefix_witness : (exportEffectPreFix .kcd exDup).1 ≠ exDup := by decide +kernel
example : (exportEffect .kcd exDup).1 = exDup := by decide +kernel

/-! ## determinism across hash seeds: sorted order does not depend on the iteration order -/

theorem insertSorted_perm (x : Int) (l : List Int) : (insertSorted x l).Perm (x :: l) := by
  induction l with
  | nil => simp [insertSorted]
  | cons y t ih =>
    simp only [insertSorted]
    split
    · exact List.Perm.refl _
    · exact (List.Perm.cons y ih).trans (List.Perm.swap x y t)

theorem sortInts_perm (l : List Int) : (sortInts l).Perm l := by
  induction l with
  | nil => simp [sortInts]
  | cons x t ih => simp only [sortInts, List.foldr_cons]; exact (insertSorted_perm x _).trans (List.Perm.cons x ih)

theorem insertSorted_sorted (x : Int) (l : List Int) (h : l.Pairwise (· ≤ ·)) : (insertSorted x l).Pairwise (· ≤ ·) := by
  induction l with
  | nil => simp [insertSorted]
  | cons y t ih =>
    simp only [insertSorted]
    split
    · rename_i hxy
      rw [List.pairwise_cons] at h ⊢
      refine ⟨?_, List.pairwise_cons.2 h⟩
      intro z hz
      rcases List.mem_cons.1 hz with rfl | hz
      · exact hxy
      · exact Int.le_trans hxy (h.1 z hz)
    · rename_i hxy
      rw [List.pairwise_cons] at h ⊢
      refine ⟨?_, ih h.2⟩
      intro z hz
      have := (insertSorted_perm x t).subset hz
      rcases List.mem_cons.1 this with rfl | hz'
      · omega
      · exact h.1 z hz'

theorem sortInts_sorted (l : List Int) : (sortInts l).Pairwise (· ≤ ·) := by
  induction l with
  | nil => simp [sortInts]
  | cons x t ih => simp only [sortInts, List.foldr_cons]; exact insertSorted_sorted x _ ih

theorem sorted_perm_eq : ∀ (a b : List Int), a.Pairwise (· ≤ ·) → b.Pairwise (· ≤ ·) → a.Perm b → a = b :=
  fun _ _ ha hb h => h.eq_of_pairwise (fun _ _ _ _ => Int.le_antisymm) ha hb

/-- The order in which sym writes the multiplex groups is the same for every order in which the
set of multiplexer values is iterated (every value of the interpreter's hash seed). -/
theorem order_independent_sym (iter1 iter2 : List Int) (h : iter1.Perm iter2) :
    symGroupOrder iter1 = symGroupOrder iter2 :=
  sorted_perm_eq _ _ (sortInts_sorted _) (sortInts_sorted _)
    ((sortInts_perm iter1).trans (h.trans (sortInts_perm iter2).symm))

/-- pre-fix witness: the written order followed the iteration order -/
theorem sym_prefix_witness : symGroupOrderPreFix [1, 2] ≠ symGroupOrderPreFix [2, 1] := by decide

end CanVerif.C14
