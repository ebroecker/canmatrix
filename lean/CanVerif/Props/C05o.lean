import CanVerif.Props.C05n
/-!
# C05 — the file as `dump` writes it, line for line

`writeDbc` is the whole text of a DBC file of a matrix without environment variables: the fixed header, the `BU_:` line, the value
tables, the frame section, all statement sections, and the empty lines `dump` puts between them - compared with the real file **as a
whole** (every line, in order) on every generated matrix without environment variables (op `core`, flag `exact`).  The theorem of
Props/C05n holds for this text, by the same proof (Proofs/DbcWhole `read_sections`): the header is skipped, the empty lines stand
where no comment is open.
-/
namespace CanVerif.C05o
open CanVerif CanVerif.Dbc CanVerif.Dbc.FileProofs

/-- the round trip of Props/C05n through the text as `dump` writes it -/
theorem dbc_file_roundtrip_line_for_line (es : List WEcu) (hes : wfEcus es = true) (ts : List WTable) (hts : wfTables ts = true)
    (ds : List DefLine) (hds : wfDefs ds = true) (dds : List DefDefLine) (hdds : wfDefaults ds dds = true)
    (ga : List (Str × Str)) (hga : wfAttrs (expectDefs ds dds) .global .global ga = true)
    (hea : ∀ e ∈ es, wfAttrs (expectDefs ds dds) .ecu (.ecu e.name) e.attrs = true)
    (ps : List (WFrame × (Nat × Bool))) (hwf : ∀ p ∈ ps, p.1.wf p.2 = true) (hdist : ps.Pairwise fun p q => p.2 ≠ q.2)
    (hfa : ∀ p ∈ ps, p.1.wfA (expectDefs ds dds) = true) :
    (readFile (writeDbc es ts ds dds ga (ps.map (·.1)))).ecus = es.map WEcu.expectA ∧
    (readFile (writeDbc es ts ds dds ga (ps.map (·.1)))).defs = expectDefs ds dds ∧
    (readFile (writeDbc es ts ds dds ga (ps.map (·.1)))).attrs = attrsOf ga ∧
    (readFile (writeDbc es ts ds dds ga (ps.map (·.1)))).frames = ps.map (fun p => p.1.expectA p.2) ∧
    (readFile (writeDbc es ts ds dds ga (ps.map (·.1)))).pending = none ∧
    (readFile (writeDbc es ts ds dds ga (ps.map (·.1)))).errors = 0 ∧
    (readFile (writeDbc es ts ds dds ga (ps.map (·.1)))).tables = ts.map WTable.line := by
  rw [writeDbc_eq]
  unfold readFile
  rw [List.foldl_append, List.foldl_append, List.foldl_append, List.foldl_append, List.foldl_append, List.foldl_append, header_fold,
    bu_line es hes, vt_lines ts hts _ rfl rfl, gap_line { ecus := es.map plainEcu, tables := ts.map WTable.line } rfl]
  obtain ⟨mAfter, hmAfter, hframes, hrest, hecus, herrors⟩ :=
    frame_section ps hwf { ecus := es.map plainEcu, tables := ts.map WTable.line } rfl rfl
  obtain ⟨m, hm, hok, r⟩ := read_sections es hes ds hds dds hdds ga hga hea ps hwf hdist hfa mAfter hframes hrest.pending hecus hrest.defs hrest.attrs
  have hokx : okFile mAfter (stmtsAllGaps es ds dds ga (ps.map (·.1))) = true := by
    rw [(filter_gaps _ mAfter).1, stmtsAllGaps_filter, ← (filter_gaps _ mAfter).1]; exact hok
  rw [hmAfter, gap_line mAfter hrest.pending, read_file _ mAfter hrest.pending hokx, (filter_gaps _ mAfter).2, stmtsAllGaps_filter, ← (filter_gaps _ mAfter).2, hm]
  exact ⟨r.ecus, r.defs, r.attrs, r.frames, r.pending, r.errors.trans herrors, r.tables.trans hrest.tables⟩

/-- the header leaves the reader in its initial state -/
theorem header_is_skipped : dbcHeader.foldl stepFile {} = {} := header_fold

/-- empty lines between complete statements do not change what can be read (nor what is read: Proofs/DbcWhole `filter_gaps`) -/
theorem empty_lines_between_statements (l : List FileStmt) (m : RMatrix) :
    okFile m l = okFile m (l.filter fun s => !isGap s) := (filter_gaps l m).1

/-! ## non-vacuity -/

example : ((writeDbc CanVerif.C05k.exEcusA CanVerif.C05n.exTables [] [] [] []).take 13).map String.ofList =
    ["VERSION \"created by canmatrix\"", "", "", "NS_ :", "", "BS_:", "", "BU_: ECU_A ECU_B Gateway ", "",
     "VAL_TABLE_ Gear 0 \"N\" 1 \"D\" 15 \"invalid \\\"x\\\"\";", "VAL_TABLE_ Empty ;", "", ""] := by
  rw [← List.map_inj_right (f := String.toList) (fun _ _ => String.toList_injective)]
  simp only [List.map_map, Function.comp_def, String.toList_ofList, List.map_id']
  unfold writeDbc dbcHeader CanVerif.C05n.exTables CanVerif.C05k.exEcusA; lit_chars; decide +kernel
example : (readFile (writeDbc CanVerif.C05k.exEcusA CanVerif.C05n.exTables CanVerif.C05k.exDefs CanVerif.C05k.exDefaults CanVerif.C05k.exGlobal
    (CanVerif.C05l.exFramesA.map (·.1)))).frames = CanVerif.C05l.exFramesA.map (fun p => p.1.expectA p.2) :=
  (dbc_file_roundtrip_line_for_line _ CanVerif.C05k.exEcusA_wf _ CanVerif.C05n.exTables_wf _ CanVerif.C05k.exDefs_wf _ CanVerif.C05k.exDefaults_wf _ CanVerif.C05k.exGlobal_wf
    CanVerif.C05k.exEcusA_attrs_wf _ CanVerif.C05l.exFramesA_wf CanVerif.C05l.exFramesA_distinct CanVerif.C05l.exFramesA_attrs_wf).2.2.2.1

end CanVerif.C05o
