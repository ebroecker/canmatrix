import CanVerif.Model.Compare
import CanVerif.Spec.CompareSpec
import CanVerif.Proofs.Compare
/-!
# C13 — comparison is sound and complete over the compared properties

Comparing two matrices reports no difference exactly when they agree on every compared property;
comparing a matrix with a copy of itself reports nothing.

`agree` (Spec/CompareSpec.lean) is the independent statement of "agree on every compared property";
`reportsNothing` is what `dump_result` prints nothing for.  Unbounded: any number of frames, signals,
ECUs, attributes, definitions, value tables; every setting of the ignore options.
-/
namespace CanVerif.C13
open CanVerif

/-- dictionaries (attributes, value tables, definitions) have unique keys -/
def KeysNodup {α β : Type} (d : List (α × β)) : Prop := (d.map (·.1)).Nodup

/-- the matrices the property quantifies over: every dictionary has unique keys -/
structure WfMat (m : QMat) : Prop where
  attrs : KeysNodup m.attrs
  gdefs : KeysNodup m.gdefs
  edefs : KeysNodup m.edefs
  fdefs : KeysNodup m.fdefs
  sdefs : KeysNodup m.sdefs
  vts : KeysNodup m.valueTables ∧ ∀ kv ∈ m.valueTables, KeysNodup kv.2
  ecus : ∀ e ∈ m.ecus, KeysNodup e.attrs
  frames : ∀ f ∈ m.frames, KeysNodup f.attrs ∧ ∀ s ∈ f.sigs, KeysNodup s.attrs ∧ KeysNodup s.values

/-- names are unique: frames by name and by (id, format), signals within a frame, signal groups within a frame, ECUs -/
structure UniqueNames (m : QMat) : Prop where
  frameNames : (m.frames.map (·.name)).Nodup
  frameIds : (m.frames.map fun f => (f.id, f.ext)).Nodup
  ecuNames : (m.ecus.map (·.name)).Nodup
  sigNames : ∀ f ∈ m.frames, (f.sigs.map (·.name)).Nodup ∧ (f.groups.map (·.name)).Nodup

mutual
/-- no node below this one reports anything: every descendant (and the node itself, if typed) is "equal" -/
def allEqual : Res → Bool
  | .node r t cs => (t.isNone || r == some "equal") && allEqualList cs
def allEqualList : List Res → Bool
  | [] => true
  | c :: rest => allEqual c && allEqualList rest
end

/-- `allEqual` is the same function as `reportsNothing` (Model/Compare.lean): the two definitions unfold to the same term -/
theorem allEqual_eq_reportsNothing (t : Res) : allEqual t = reportsNothing t := by
  delta allEqual reportsNothing; rfl

/-! ### `propagate_reports` carries the hypothesis `ht`

The property speaks of every result tree; for *every* tree `t` the equation is false: a node without a
type is never printed, but its own result still propagates upwards.  Counterexample (checked below):
a typed "equal" node with one typeless child whose result is not "equal" - `allEqual` is `true` (the
typeless child is skipped, the parent is "equal"), but `propagate` turns the parent into "changed",
which is then reported.

Least extra hypothesis: every node other than the root has a type (`typedBelow`, Proofs/Compare.lean).
Every tree that `compareDb` hands to `propagate` satisfies it (`compareDb_typedBelow` below), so nothing
is lost for the model. -/
example :
    reportsNothing (propagate (.node (some "equal") (some "T") [.node none none []])).1 = false ∧
    allEqual (.node (some "equal") (some "T") [.node none none []]) = true := by decide +kernel

/-- `propagate_changes` does not hide or invent differences: after propagation nothing is reported iff
nothing was reported before -/
theorem propagate_reports (t : Res) (ht : typedBelow t = true) : reportsNothing (propagate t).1 = allEqual t := by
  rw [allEqual_eq_reportsNothing]; exact propagate_reports_typed t ht

/-- the hypothesis of `propagate_reports` holds for the tree `compareDb` propagates over -/
theorem compareDb_typedBelow (ign : Ign) (a b : QMat) :
    compareDb ign a b = (propagate (compareDbPre ign a b)).1 ∧ typedBelow (compareDbPre ign a b) = true :=
  ⟨rfl, compareDbPre_typed ign a b⟩

theorem WfMat.raw {m : QMat} (h : WfMat m) : RawWf m :=
  ⟨h.attrs, h.gdefs, h.edefs, h.fdefs, h.sdefs, h.vts, h.ecus, h.frames⟩

/-- Soundness and completeness: the comparison reports no difference exactly when the two matrices
agree on every compared property, for every setting of the ignore options. -/
theorem compare_sound_complete (ign : Ign) (a b : QMat) (ha : WfMat a) (hb : WfMat b) :
    reportsNothing (compareDb ign a b) = SpecCompare.agree ign a b := by
  have _ := ha  -- not needed: lookups are made in the dictionaries of the second operand only
  exact compareDb_ok ign a b hb.raw

theorem agree_refl (ign : Ign) (a : QMat) (ha : WfMat a) (hu : UniqueNames a) : SpecCompare.agree ign a a = true :=
  agree_refl_raw ign a hu.frameNames hu.ecuNames hu.sigNames ha.vts.1

/-- Comparing a matrix with a copy of itself reports nothing. -/
theorem compare_self (ign : Ign) (a : QMat) (ha : WfMat a) (hu : UniqueNames a) :
    reportsNothing (compareDb ign a a) = true := by
  rw [compare_sound_complete ign a a ha ha]; exact agree_refl ign a ha hu

/-- The command line flags map to the ignore settings as documented: comments and attributes are
compared only when asked for, value tables unless excluded, definitions always. -/
theorem flags_mapping (cc ca iv : Bool) :
    ignOfFlags cc ca iv = { igComment := !cc, igAttr := !ca, igDefine := false, igVt := iv } := rfl

/-- Excluded categories cannot cause a report: with value tables ignored, matrices differing only in
value tables (global and per signal) compare as equal to the same matrices with identical tables. -/
theorem ignore_valuetables_scope (ign : Ign) (hv : ign.igVt = true) (a b : QMat) (ha : WfMat a) (hb : WfMat b) :
    SpecCompare.agree ign a b =
      SpecCompare.agree ign
        { a with valueTables := [], frames := a.frames.map fun f => { f with sigs := f.sigs.map fun s => { s with values := [] } } }
        { b with valueTables := [], frames := b.frames.map fun f => { f with sigs := f.sigs.map fun s => { s with values := [] } } } := by
  have _ := ha; have _ := hb  -- not needed: the specification alone is concerned
  exact agree_strip ign hv a b

/-! non-vacuity -/
def exA : QMat :=
  { frames := [{ name := "F", id := 0x10, ext := false, size := 8, comment := none, transmitters := ["E1"], attrs := [],
                 sigs := [{ name := "s", start := 0, size := 8, factor := 2, offset := 0, min := 0, max := 510, little := true,
                            signed := false, multiplex := "None", unit := "", comment := none, receivers := [], attrs := [], values := [] }],
                 groups := [] }],
    ecus := [], attrs := [], gdefs := [], edefs := [], fdefs := [], sdefs := [], valueTables := [] }
def exB : QMat := { exA with frames := exA.frames.map fun f => { f with sigs := f.sigs.map fun s => { s with factor := 3 } } }
example : reportsNothing (compareDb {} exA exA) = true := by decide +kernel
example : reportsNothing (compareDb {} exA exB) = false ∧ SpecCompare.agree {} exA exB = false := by decide +kernel

end CanVerif.C13
