import CanVerif.Model.Convert
import CanVerif.Proofs.ConvertSelect
/-!
# C18 (continued) — the selection options `--frames` and `--ecus` have exactly their documented effect

`--frames=a,b`: the result holds the named frames of the input (each identifier once, in the order of the option) and of the
input's ECUs exactly those the kept frames refer to.
`--ecus=pattern[:rx|:tx],…`: the result holds exactly those frames of the input that a selected ECU sends (unless `:rx`) or
of which it receives a signal (unless `:tx`); every selected ECU is kept; any other ECU is kept only if it sends a kept frame,
and an ECU that is not kept is no receiver any more.
Stated on the model of convert.py (Model/Convert.lean); frames are identified by (identifier, format).
-/
namespace CanVerif.C18s
open CanVerif CanVerif.Conv

/-- identifiers are unique in the input (a matrix read from a file) -/
def uniqueIds (m : KMat) : Prop := m.frames.Pairwise fun f g => ¬ (f.id = g.id ∧ f.ext = g.ext)

/-- names of the ECUs a frame refers to -/
def refs (f : KFrame) : List String := f.tx ++ f.sigs.flatMap (·.receivers)

/-! ## `--frames` -/

/-- every named frame must exist (else the converter raises) -/
theorem selectFrames_some_iff (src : KMat) (names : List String) (acc : KMat) :
    (selectFrames src names acc).isSome ↔ ∀ n ∈ names, ∃ f ∈ src.frames, f.name = n :=
  SelectProofs.selectFrames_isSome src names acc

/-- the frames of the result are frames of the input, carried over unchanged -/
theorem selectFrames_frames_from_source (src r : KMat) (names : List String) (h : selectFrames src names {} = some r) :
    ∀ g ∈ r.frames, g ∈ src.frames ∧ g.name ∈ names :=
  SelectProofs.selectFrames_from_source src r names h

/-- every named frame is in the result: the first frame of that name, unless a frame with its identifier was taken before -/
theorem selectFrames_complete (src r : KMat) (names : List String) (h : selectFrames src names {} = some r) :
    ∀ n ∈ names, ∀ f, src.frames.find? (·.name == n) = some f → ∃ g ∈ r.frames, g.id = f.id ∧ g.ext = f.ext :=
  SelectProofs.selectFrames_complete src r names h

/-- no identifier twice -/
theorem selectFrames_unique_ids (src r : KMat) (names : List String) (h : selectFrames src names {} = some r) : uniqueIds r :=
  SelectProofs.selectFrames_uniq src r names h

/-- the ECUs of the result are exactly the input's ECUs that a kept frame refers to -/
theorem selectFrames_ecus (src r : KMat) (names : List String) (h : selectFrames src names {} = some r) (e : String) :
    e ∈ r.ecus ↔ e ∈ src.ecus ∧ ∃ g ∈ r.frames, e ∈ refs g :=
  SelectProofs.selectFrames_ecusExact src r names h e

/-! ## `--ecus` -/

/-- the ECUs an item of the option selects -/
def selected (src : KMat) (items : List (String × Dir)) : List String :=
  items.flatMap fun it => src.ecus.filter (globMatch it.1 ·)

/-- a frame the option asks for -/
def wanted (src : KMat) (items : List (String × Dir)) (f : KFrame) : Prop :=
  ∃ it ∈ items, ∃ e ∈ src.ecus, globMatch it.1 e = true ∧
    ((it.2 ≠ .rx ∧ e ∈ f.tx) ∨ (it.2 ≠ .tx ∧ ∃ s ∈ f.sigs, e ∈ s.receivers))

/-- Exactly the wanted frames of the input are in the result (identified by identifier and format; receiver lists may have
lost ECUs that are not kept, see `selectEcus_receivers`). -/
theorem selectEcus_frames (src : KMat) (items : List (String × Dir)) (hu : uniqueIds src) (f : KFrame) (hf : f ∈ src.frames) :
    (∃ g ∈ (selectEcus src items).frames, g.id = f.id ∧ g.ext = f.ext) ↔ wanted src items f :=
  (SelectProofs.prune_hasId _ _ f).trans (SelectProofs.copied_hasId_iff hu hf)

/-- nothing but frames of the input: same identifier, format, name, length, senders minus removed ECUs, and the same signals
up to their receiver lists -/
theorem selectEcus_frames_from_source (src : KMat) (items : List (String × Dir)) :
    ∀ g ∈ (selectEcus src items).frames, ∃ f ∈ src.frames, g.id = f.id ∧ g.ext = f.ext ∧ g.name = f.name ∧ g.size = f.size ∧
      g.sigs.map (fun s => (s.name, s.start, s.size)) = f.sigs.map (fun s => (s.name, s.start, s.size)) :=
  SelectProofs.selectEcus_from_source src items

/-- every selected ECU is kept -/
theorem selectEcus_keeps_selected (src : KMat) (items : List (String × Dir)) :
    ∀ e ∈ selected src items, e ∈ (selectEcus src items).ecus :=
  SelectProofs.selectEcus_selected src items

/-- any ECU of the result is selected or sends a frame of the result -/
theorem selectEcus_ecus_justified (src : KMat) (items : List (String × Dir)) :
    ∀ e ∈ (selectEcus src items).ecus, e ∈ selected src items ∨ ∃ g ∈ (selectEcus src items).frames, e ∈ g.tx :=
  SelectProofs.selectEcus_justified src items

/-- who still receives a signal in the result is an ECU of the result (receiver lists without repetitions: `list.remove` takes
out one occurrence) -/
theorem selectEcus_receivers (src : KMat) (items : List (String × Dir))
    (hnd : ∀ f ∈ src.frames, ∀ s ∈ f.sigs, s.receivers.Nodup) :
    ∀ g ∈ (selectEcus src items).frames, ∀ s ∈ g.sigs, ∀ e ∈ s.receivers, e ∈ (selectEcus src items).ecus :=
  SelectProofs.selectEcus_receivers_in src items hnd

/-! non-vacuity -/
def exM : KMat := { ecus := ["A", "B", "C"], frames := [
  { name := "F1", id := 1, ext := false, size := 8, tx := ["A"], sigs := [{ name := "s", start := 0, size := 8, receivers := ["B"] }] },
  { name := "F2", id := 2, ext := false, size := 8, tx := ["C"], sigs := [{ name := "t", start := 0, size := 8, receivers := ["A", "B"] }] },
  { name := "F3", id := 3, ext := false, size := 8, tx := ["B"], sigs := [] }] }
example : ((selectEcus exM [("A", .tx)]).frames.map (·.name), (selectEcus exM [("A", .tx)]).ecus) = (["F1"], ["A"]) := by decide +kernel
example : ((selectEcus exM [("A", .rx)]).frames.map (·.name), (selectEcus exM [("A", .rx)]).ecus) = (["F2"], ["A", "C"]) := by decide +kernel
example : (selectFrames exM ["F3", "F1"] {}).map (fun r => (r.frames.map (·.name), r.ecus)) = some (["F3", "F1"], ["B", "A"]) := by decide +kernel

end CanVerif.C18s
