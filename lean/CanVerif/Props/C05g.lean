import CanVerif.Proofs.DbcMatrix
/-!
# C05 (continued) — a statement of a DBC file changes exactly the object it names

For the model of the whole reader (Model/DbcFile.lean, tied to `dbc.load` by the correspondence check): in a matrix whose frames have pairwise
different identifiers a frame number finds the frame whose identifier it denotes (`frames_by_id`: the last frame registered under an
identifier - with unique identifiers the only one), within a frame with pairwise different signal names a name finds its signal, and the
statement that names them - read from its written text, comments also over several lines - changes that frame / that signal in exactly
one field; every other frame and signal is what it was (`modFrame_get`, `modSig_get`).  These are the steps of which the file-level
fold of Props/C05f consists; that the fold over all statements `dump` emits gives back the whole matrix is Props/C05h–C05r.
-/
namespace CanVerif.C05g
open CanVerif CanVerif.Dbc CanVerif.Dbc.FileProofs

/-- a frame number finds the frame whose identifier it denotes -/
theorem lookup_by_identifier (m : RMatrix) (hu : KeysUnique m) (i : Nat) (f : RFrame) (n : Nat)
    (hget : m.frames[i]? = some f) (hk : keyOfCompound n = some f.key) : frameIdx m n = some i :=
  FileProofs.lookup_by_identifier m hu i f n hget hk

/-- a number that denotes the identifier of no frame finds none -/
theorem lookup_unknown (m : RMatrix) (n : Nat) (k : Nat × Bool) (hk : keyOfCompound n = some k)
    (hno : ∀ f ∈ m.frames, f.key ≠ k) : frameIdx m n = none :=
  FileProofs.lookup_unknown m n k hk hno

/-- a signal name finds its signal -/
theorem lookup_signal (f : RFrame) (hu : NamesUnique f) (j : Nat) (s : RSig) (hget : f.sigs[j]? = some s) :
    sigIdx f s.sg.name = some j :=
  FileProofs.lookup_signal f hu j s hget

/-- changing one frame leaves every other frame what it was -/
theorem other_frames_unchanged (m : RMatrix) (i k : Nat) (g : RFrame → RFrame) (hk : k ≠ i) :
    (m.modFrame i g).frames[k]? = m.frames[k]? := by
  rw [modFrame_get, if_neg hk]

/-- changing one signal leaves every other signal of the frame what it was -/
theorem other_signals_unchanged (f : RFrame) (j k : Nat) (g : RSig → RSig) (hk : k ≠ j) :
    (f.modSig j g).sigs[k]? = f.sigs[k]? := by
  rw [modSig_get, if_neg hk]

/-- the written comment of a signal (one line or several) reaches exactly that signal -/
theorem written_signal_comment (m : RMatrix) (hm : m.pending = none) (hu : KeysUnique m) (i j n : Nat) (f : RFrame) (s : RSig)
    (hf : m.frames[i]? = some f) (hn : NamesUnique f) (hs : f.sigs[j]? = some s) (hk : keyOfCompound n = some f.key)
    (text : Str) (hname : isIdent s.sg.name = true) (htext : wfComment text = true) :
    (cmLines (.sg n s.sg.name) text).foldl stepFile m =
      ({ m with cur := some i }).modFrame i fun f => f.modSig j fun s => { s with comment := some text } :=
  FileProofs.written_signal_comment m hm hu i j n f s hf hn hs hk text hname htext

/-- the written `VAL_` statement reaches exactly that signal -/
theorem written_value_table (m : RMatrix) (hm : m.pending = none) (hu : KeysUnique m) (i j : Nat) (f : RFrame) (s : RSig)
    (hf : m.frames[i]? = some f) (hn : NamesUnique f) (hs : f.sigs[j]? = some s) (v : ValLine) (hk : keyOfCompound v.id = some f.key)
    (hname : v.name = s.sg.name) (hw : (Stmt.val v).wf = true) :
    stepFile m (renderVal v) =
      ({ m with cur := some i }).modFrame i fun f => f.modSig j fun s =>
        { s with values := v.entries.foldl (fun acc (k, t) => assocSet acc k t) s.values } :=
  FileProofs.written_value_table m hm hu i j f s hf hn hs v hk hname hw

/-- the written `BA_ … SG_` statement reaches exactly that signal -/
theorem written_signal_attribute (m : RMatrix) (hm : m.pending = none) (hu : KeysUnique m) (i j n : Nat) (f : RFrame) (s : RSig)
    (hf : m.frames[i]? = some f) (hn : NamesUnique f) (hs : f.sigs[j]? = some s) (hk : keyOfCompound n = some f.key)
    (attr v : Str) (hw : (Stmt.ba ⟨attr, .signal n s.sg.name, v⟩).wf = true) (hnum : numericOk m .signal attr v = true) :
    stepFile m (renderBa ⟨attr, .signal n s.sg.name, v⟩) =
      m.modFrame i fun f => f.modSig j fun s => { s with attrs := assocSet s.attrs attr (stripWs v) } :=
  FileProofs.written_signal_attribute m hm hu i j n f s hf hn hs hk attr v hw hnum

/-- the effects of the statements that name a frame, for a frame number that is found -/
theorem frame_statement_effects (m : RMatrix) (n i : Nat) (h : frameIdx m n = some i) :
    (∀ text, applyItem m (.cm (.bo n) text) = ({ m with cur := some i }).modFrame i fun f => { f with comment := some text }) ∧
    (∀ ecus, applyItem m (.tx ⟨n, ecus⟩) =
      ({ m with cur := some i }).modFrame i fun f => { f with transmitters := addTransmitters f.transmitters ecus }) ∧
    (∀ name gid members, applyItem m (.grp ⟨n, name, gid, members⟩) =
      ({ m with cur := some i }).modFrame i fun f => { f with groups := f.groups ++ [groupOf f ⟨n, name, gid, members⟩] }) :=
  ⟨fun text => effect_cm_bo m n i text h, fun ecus => effect_tx m ⟨n, ecus⟩ i h, fun name gid members => effect_grp m ⟨n, name, gid, members⟩ i h⟩

/-- the written frame section of a file builds, in the matrix under construction, one frame per `BO_` line in the order of the file, each with
the identifier its number denotes, its name, length, first sender and its signals in their order (numbers as they are read back); no
error is printed, nothing else changes -/
theorem frame_section_builds_frames (bs : List Block) (ks : List (Nat × Bool)) (m : RMatrix) (hm : m.pending = none)
    (hw : ∀ b ∈ bs, wfBlock b = true) (hk : bs.map (fun b => boKey b.bo) = ks.map some) :
    ((writeFrames bs).foldl stepFile m).frames = m.frames ++ framesOfBlocks bs ks ∧
    ((writeFrames bs).foldl stepFile m).pending = none ∧
    ((writeFrames bs).foldl stepFile m).ecus = m.ecus ∧ ((writeFrames bs).foldl stepFile m).errors = m.errors :=
  FileProofs.frames_fold bs ks m hm hw hk

/-! ## non-vacuity: two frames with the same number in the two formats are told apart -/
def twoFrames : RMatrix :=
  readFile ["BO_ 291 Std: 8 E1".toList, " SG_ a : 0|8@1+ (1,0) [0|0] \"\" E2".toList, "BO_ 2147483939 Ext: 8 E1".toList,
            " SG_ a : 0|8@1+ (1,0) [0|0] \"\" E2".toList]
example : twoFrames.frames.map (·.key) = [(291, false), (291, true)] := by unfold twoFrames; lit_chars; decide +kernel
example : KeysUnique twoFrames := by unfold KeysUnique twoFrames; lit_chars; decide +kernel
example : frameIdx twoFrames 291 = some 0 ∧ frameIdx twoFrames 2147483939 = some 1 ∧ frameIdx twoFrames 292 = none := by unfold twoFrames; lit_chars; decide +kernel
example : ((cmLines (.sg 2147483939 "a".toList) "two\nlines".toList).foldl stepFile twoFrames).frames.map
    (fun f => f.sigs.map (·.comment)) = [[none], [some "two\nlines".toList]] := by unfold twoFrames; lit_chars; decide +kernel

end CanVerif.C05g
