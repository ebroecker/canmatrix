import CanVerif.Model.Layout
import CanVerif.Spec.Bits
import CanVerif.Proofs.Codec
import CanVerif.Proofs.Layout
import CanVerif.Proofs.Compress
/-!
# C16 — layout utilities agree with the codec: usage map, dummies, length, compress

The bit-usage report of a frame lists for every payload bit exactly the signals whose value depends
on that bit; adding dummy signals leaves the existing signals untouched and makes every bit belong to
exactly one signal when none overlapped before; the computed frame length is the smallest byte count
containing all signals (never below the declared length unless forced); fitting to CAN FD gives the
smallest permitted length not below it; compressing keeps every signal's width and byte order.
(compress: no overlap, no gap, order kept, termination are proved here for Motorola frames and in Props/C16L.lean for Intel frames;
frames with both byte orders are left alone, `compress_mixed_noop`.)
-/
namespace CanVerif.C16
open CanVerif

theorem layout_length (f : Frame) : f.layout.length = 8 * f.size :=
  length_layout f

/-- Entry `j` of the usage report (MSB-first index, i.e. physical address `flipN j`) contains a
signal's name iff that address is one of the signal's addresses - the addresses its decoded value
depends on (C01 `decode_only_sigAddrs` / `decode_each_sigAddr`). -/
theorem layout_eq_sigAddrs (f : Frame) (hin : ∀ s ∈ f.sigs, inFrame s f.size)
    (hnd : (f.sigs.map (·.name)).Nodup) (j : Nat) (hj : j < 8 * f.size) (s : Sig) (hs : s ∈ f.sigs) :
    s.name ∈ f.layout.getD j [] ↔ ∃ i, i < s.size ∧ sigAddr s.little s.start s.size i = flipN j := by
  -- holds without `hin`: a signal reaching beyond the frame is listed at the positions it has inside
  have _ := hin
  exact (layout_mem_of_nodup f hnd j hj s hs).trans (occ_iff_sigAddr s j)

/-- and nothing else is listed -/
theorem layout_only_signals (f : Frame) (j : Nat) (nm : String) (h : nm ∈ f.layout.getD j []) :
    ∃ s ∈ f.sigs, s.name = nm := by
  by_cases hj : j < 8 * f.size
  · obtain ⟨s, hs, hn, _⟩ := (layout_mem f j hj nm).1 h
    exact ⟨s, hs, hn⟩
  · have : f.layout.length ≤ j := by rw [length_layout f]; omega
    simp [List.getD_eq_getElem?_getD, List.getElem?_eq_none this] at h

/-- Existing signals are untouched: dummies are appended. -/
theorem dummies_keep_existing (f : Frame) (nm : String) :
    ∃ ds, (f.createDummySignals nm).sigs = f.sigs ++ ds ∧ ds = createDummies nm f.layout ∧
      (f.createDummySignals nm).size = f.size :=
  ⟨createDummies nm f.layout, rfl, rfl, rfl⟩

/-- The dummies cover exactly the unused entries of the usage report, each exactly once, and are
Motorola signals (so dummy `d` covers the MSB-first indices `d.start … d.start + d.size - 1`). -/
theorem dummies_cover_exactly_gaps (nm : String) (bitfield : List (List String)) (j : Nat) (hj : j < bitfield.length) :
    let ds := createDummies nm bitfield
    (∀ d ∈ ds, d.little = false ∧ 1 ≤ d.size ∧ d.start + d.size ≤ bitfield.length) ∧
    ((ds.filter fun d => d.start ≤ j && j < d.start + d.size).length = if bitfield.getD j [] = [] then 1 else 0) := by
  intro ds
  obtain ⟨ha, hb⟩ := dummies_good nm bitfield
  exact ⟨ha, hb j hj⟩

def AllFit (sigs : List Sig) (n : Nat) : Prop := ∀ s ∈ sigs, s.start + s.size ≤ 8 * n

/-- `start + size ≤ 8n` says exactly that all of the signal's physical addresses lie in the first `n` bytes -/
theorem fits_iff_addrs (s : Sig) (n : Nat) (hz : 1 ≤ s.size) :
    s.start + s.size ≤ 8 * n ↔ ∀ i, i < s.size → sigAddr s.little s.start s.size i < 8 * n := by
  refine ⟨fun h i hi => sigAddr_lt h hi, fun h => ?_⟩
  cases hl : s.little
  · have := flipN_lt (h 0 (by omega))
    simp only [hl, sigAddr, Bool.false_eq_true, if_false, flipN_flipN] at this
    omega
  · have := h (s.size - 1) (by omega)
    simp only [hl, sigAddr, if_true] at this
    omega

/-- `calc_dlc`: the smallest byte count containing all signals that is not below the declared length. -/
theorem calc_dlc_smallest (f : Frame) :
    AllFit f.sigs f.calcDlc.size ∧ f.size ≤ f.calcDlc.size ∧
    ∀ n, f.size ≤ n → AllFit f.sigs n → f.calcDlc.size ≤ n :=
  ⟨(bytes_le_iff f.sigs _).1 (Nat.le_max_right ..), Nat.le_max_left ..,
    fun n hn hfit => Nat.max_le.2 ⟨hn, (bytes_le_iff f.sigs n).2 hfit⟩⟩

/-- forced recalculation: the smallest byte count containing all signals. -/
theorem force_dlc_smallest (f : Frame) :
    AllFit f.sigs f.forceDlc.size ∧ ∀ n, AllFit f.sigs n → f.forceDlc.size ≤ n :=
  ⟨(bytes_le_iff f.sigs _).1 (Nat.le_refl _), fun n hfit => (bytes_le_iff f.sigs n).2 hfit⟩

/-- Recalculating a matrix gives every frame its own result: the length of a frame does not depend on
the frames standing before or after it in the matrix. -/
theorem recalc_frame_by_frame (strategy : String) (pre post : List Frame) (f : Frame) :
    recalcDlc strategy (pre ++ f :: post) =
      recalcDlc strategy pre ++ (recalcDlc strategy [f]) ++ recalcDlc strategy post := by
  simp [recalcDlc]

theorem recalc_force (pre post : List Frame) (f : Frame) :
    (recalcDlc "force" (pre ++ f :: post))[pre.length]? = some f.forceDlc := by
  simp [recalcDlc]

theorem recalc_max (pre post : List Frame) (f : Frame) :
    (recalcDlc "max" (pre ++ f :: post))[pre.length]? = some f.calcDlc := by
  simp [recalcDlc]

def permitted : List Nat := [0, 1, 2, 3, 4, 5, 6, 7, 8, 12, 16, 20, 24, 32, 48, 64]

/-- `fit_dlc`: the smallest permitted CAN / CAN FD length not below the current one. -/
theorem fit_dlc_table (n : Nat) (h : n ≤ 64) :
    fitDlc n ∈ permitted ∧ n ≤ fitDlc n ∧ ∀ p ∈ permitted, n ≤ p → fitDlc n ≤ p := by
  have hs : (8 :: [12, 16, 20, 24, 32, 48, 64]).Pairwise (· < ·) := by decide
  rw [show permitted = List.range 9 ++ [12, 16, 20, 24, 32, 48, 64] from rfl]
  by_cases h8 : n ≤ 8
  · rw [show fitDlc n = n from fitDlc_go_of_le_last n _ 8 hs h8]
    exact ⟨List.mem_append_left _ (List.mem_range.2 (by omega)), Nat.le_refl n, fun _ _ hp => hp⟩
  · obtain ⟨h1, h2, h3⟩ := fitDlc_go_spec n _ 8 hs (by omega)
    refine ⟨?_, h1, fun p hp hnp => ?_⟩
    · rcases h2 with h2 | ⟨_, h2⟩
      · exact List.mem_append_right _ h2
      · have := h2 64 (by decide)
        omega
    · rcases List.mem_append.1 hp with hp | hp
      · have := List.mem_range.1 hp
        omega
      · exact h3 p hp hnp

theorem fit_dlc_above_64 (n : Nat) (h : 64 < n) : fitDlc n = n := by
  have hs : (8 :: [12, 16, 20, 24, 32, 48, 64]).Pairwise (· < ·) := by decide
  obtain ⟨h1, h2 | h2, _⟩ := fitDlc_go_spec n _ 8 hs (by omega)
  · have := (by decide : ∀ m ∈ [12, 16, 20, 24, 32, 48, 64], m ≤ 64) _ h2
    omega
  · exact h2.1

/-- `set_fd_type`: frames longer than 8 bytes become FD, the others keep their type. -/
theorem set_fd_type_rule (n : Nat) (fd : Bool) : setFdType n fd = (fd || decide (n > 8)) := by
  unfold setFdType
  by_cases h : n > 8 <;> simp [h]

/-- what `compress` must keep of every signal -/
def shape (s : Sig) : String × Nat × Bool × Bool := (s.name, s.size, s.little, s.signed)

/-- Compressing keeps the signal list, every signal's width and byte order (only start bits move). -/
theorem compress_preserves (f g : Frame) (h : f.compress = .ok g) :
    g.sigs.map shape = f.sigs.map shape ∧ g.size = f.size :=
  compress_shape shape (fun _ _ => rfl) f g h

/-- A frame mixing byte orders is left exactly as it is. -/
theorem compress_mixed_noop (f : Frame) (h1 : f.sigs.any (·.little) = true) (h2 : f.sigs.any (fun s => !s.little) = true) :
    f.compress = .ok f := by
  unfold Frame.compress
  simp [h1, h2]

/-! ## compress: no overlap is created, no unused bit stays before a signal, the order is kept (Motorola frames) -/

/-- the bit positions a Motorola signal occupies in canmatrix's internal numbering (position 0 = most significant bit of byte 0);
written out here so that the statements read on their own, it is `Occ` of Proofs/Layout -/
def occ (s : Sig) (j : Nat) : Prop := s.start ≤ j ∧ j < s.start + s.size

/-- a frame `compress` is meant for: Motorola signals only, each with a name of its own and at least one bit, inside the frame,
no two of them on the same bit.  Written out, this is `Packable false f` of Proofs/Compress: the proofs below hand `hf` to
`compress_packs false` and `compress_terminates false` as such. -/
def compressibleBig (f : Frame) : Prop :=
  (∀ s ∈ f.sigs, s.little = false ∧ 1 ≤ s.size ∧ s.start + s.size ≤ 8 * f.size) ∧ (f.sigs.map (·.name)).Nodup ∧
  (∀ a ∈ f.sigs, ∀ b ∈ f.sigs, a.name ≠ b.name → ∀ j, ¬ (occ a j ∧ occ b j))

/-- compressing creates no overlap -/
theorem compress_big_no_overlap (f g : Frame) (hf : compressibleBig f) (h : f.compress = .ok g) :
    ∀ a ∈ g.sigs, ∀ b ∈ g.sigs, a.name ≠ b.name → ∀ j, ¬ (occ a j ∧ occ b j) := by
  obtain ⟨⟨-, -, hov⟩, -⟩ := compress_packs false f g hf h
  exact hov

/-- ... and leaves no unused bit before a signal: every position below a signal's first bit belongs to some signal -/
theorem compress_big_no_gap (f g : Frame) (hf : compressibleBig f) (h : f.compress = .ok g) :
    ∀ s ∈ g.sigs, ∀ j, j < s.start → ∃ t ∈ g.sigs, occ t j := by
  obtain ⟨-, hnogap, -⟩ := compress_packs false f g hf h
  exact hnogap

/-- ... and keeps the relative order of the signals in the payload -/
theorem compress_big_keeps_order (f g : Frame) (hf : compressibleBig f) (h : f.compress = .ok g)
    (a b : Sig) (ha : a ∈ f.sigs) (hb : b ∈ f.sigs) (hab : a.start < b.start) :
    ∀ a' ∈ g.sigs, ∀ b' ∈ g.sigs, a'.name = a.name → b'.name = b.name → a'.start < b'.start := by
  obtain ⟨-, -, -, hord⟩ := compress_packs false f g hf h
  exact hord a ha b hb hab

/-- the loop always ends within the fuel of the model (the Python `while True` terminates) -/
theorem compress_big_terminates (f : Frame) (hf : compressibleBig f) : ∃ g, f.compress = .ok g :=
  compress_terminates false f hf

/-! non-vacuity -/
def exF : Frame := { size := 2, sigs := [{ name := "a", start := 4, size := 4, little := false }, { name := "b", start := 15, size := 1, little := false }] }
example : (exF.createDummySignals "f").sigs.drop 2 = [{ name := "_Dummy_f_0", start := 0, size := 4, little := false, signed := true }, { name := "_Dummy_f_1", start := 8, size := 7, little := false, signed := true }] := by decide +kernel
example : (exF.compress.toOption.map fun g => g.sigs.map (·.start)) = some [0, 4] := by decide +kernel

end CanVerif.C16
