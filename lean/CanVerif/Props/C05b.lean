import CanVerif.Model.DbcStmt
import CanVerif.Proofs.DbcStmt
import CanVerif.Proofs.StrLit
/-!
# C05 (continued) — further DBC statements are read back as written: `BO_TX_BU_`, `SIG_VALTYPE_`, `SG_MUL_VAL_`

Same shape as the `BO_`/`SG_`/`VAL_` theorems of Props/C05.lean: for every well-formed statement (identifier-like names),
the reader model applied to the writer model's line gives the statement back.  The models are tied to dbc.dump / dbc.load by the
correspondence check (ops `tx`, `vt`, `mul` of the C05 harness: same line text, same parse result).
-/
namespace CanVerif.C05b
open CanVerif CanVerif.Dbc

/-- `BO_TX_BU_`: the list of senders is read back as written (any number of senders, any identifier) -/
theorem tx_line_roundtrip (t : TxLine) (h : wfTx t = true) : parseTx (renderTx t) = some t :=
  StmtProofs.parseTx_renderTx t h

/-- adding the listed senders to a frame that has none yet (`Vector__XXX` in its `BO_` line) gives the list -/
theorem tx_senders_restored (ecus : List Str) (hnd : ecus.Nodup) : addTransmitters [] ecus = ecus := by
  simpa using StmtProofs.addTransmitters_append [] ecus (by simpa using hnd)

/-- adding them to a frame whose `BO_` line already named the first sender gives the list as well -/
theorem tx_senders_restored_after_bo (first : Str) (rest : List Str) (hnd : (first :: rest).Nodup) :
    addTransmitters [first] (first :: rest) = first :: rest :=
  StmtProofs.addTransmitters_after_first first rest hnd

/-- `SIG_VALTYPE_`: the reader finds the frame and the signal the line names (and makes it a float, whatever the type number) -/
theorem valtype_line_roundtrip (v : ValTypeLine) (h : wfValType v = true) :
    parseValType (renderValType v) = some (v.id, v.name) :=
  StmtProofs.parseValType_renderValType v h

/-- `SG_MUL_VAL_`: signal, multiplexer and all selector ranges are read back as written -/
theorem mul_line_roundtrip (m : MulLine) (h : wfMul m = true) (hne : m.ranges ≠ []) : parseMul (renderMul m) = some m :=
  StmtProofs.parseMul_renderMul m h hne

/-- the hypothesis `hne` is needed: a binding without ranges is written as `SG_MUL_VAL_ id sig muxer ;`, which the reader rejects
(`"".split("-")` does not give two parts) -/
theorem mul_line_without_ranges_not_read (m : MulLine) (h : wfMul m = true) (he : m.ranges = []) : parseMul (renderMul m) = none :=
  StmtProofs.parseMul_no_ranges m h he

/-! non-vacuity -/
example : parseTx (renderTx { id := 2147483904, ecus := ["ECU_A".toList, "Gw".toList] }) = some { id := 2147483904, ecus := ["ECU_A".toList, "Gw".toList] } := by
  unfold renderTx; lit_chars; decide +kernel
example : renderMul { id := 5, sig := "s".toList, muxer := "mx".toList, ranges := [(1, 1), (3, 7)] } = "SG_MUL_VAL_ 5 s mx 1-1, 3-7;".toList := by
  unfold renderMul; lit_chars; decide +kernel
example : parseMul "SG_MUL_VAL_ 5 s mx 1-1, 3-7;".toList = some { id := 5, sig := "s".toList, muxer := "mx".toList, ranges := [(1, 1), (3, 7)] } := by
  lit_chars; decide +kernel
example : parseValType "SIG_VALTYPE_ 5 s : 2;".toList = some (5, "s".toList) := by lit_chars; decide +kernel
example : parseValType "SIG_VALTYPE_ 5 s: 1;".toList = some (5, "s".toList) := by lit_chars; decide +kernel

end CanVerif.C05b
