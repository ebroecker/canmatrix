import CanVerif.Model.DbcAttr
import CanVerif.Proofs.DbcAttr
import CanVerif.Proofs.StrLit
/-!
# C05 (continued) — the attribute statements are read back as written: `BA_DEF_`, `BA_DEF_DEF_`, `BA_`

For every well-formed statement the reader model applied to the writer model's line gives the statement back: the definition of
an attribute on each of the five levels, its default (texts in quotes, also the empty text; numbers as they are), and the
value of an attribute of the network, an ECU, a frame or a signal.  The models are tied to dbc.dump / dbc.load by the
correspondence check (ops `def`, `dd`, `ba` of the C05 harness: same line text, same parse result).
-/
namespace CanVerif.C05c
open CanVerif CanVerif.Dbc

/-- `BA_DEF_`: level, name and definition text are read back as written -/
theorem def_line_roundtrip (d : DefLine) (h : wfDef d = true) : parseDef (renderDef d) = some d :=
  AttrProofs.parseDef_renderDef d h

/-- `BA_DEF_DEF_`: the default is read back - a text (also the empty one) without its quotes, a number as written -/
theorem defdef_line_roundtrip (d : DefDefLine) (h : wfDefDef d = true) :
    parseDefDef (renderDefDef d) = some (d.name, d.value) :=
  AttrProofs.parseDefDef_renderDefDef d h

/-- in particular the empty text is a default like any other -/
theorem defdef_empty_text (name : Str) (h : wfAttrName name = true) :
    parseDefDef (renderDefDef { name := name, isText := true, value := [] }) = some (name, []) :=
  AttrProofs.parseDefDef_renderDefDef { name := name, isText := true, value := [] } (by simp [wfDefDef, h])

/-- `BA_`: attribute, target and value are read back as written, for the network, an ECU, a frame and a signal -/
theorem ba_line_roundtrip (b : BaLine) (h : wfBa b = true) : parseBa (renderBa b) = some b :=
  AttrProofs.parseBa_renderBa b h

/-- a text value loses exactly its quotes in the post-processing -/
theorem ba_text_value (t : Str) : stripQuotes ('"' :: t ++ ['"']) = t :=
  AttrProofs.stripQuotes_quoted t

/-! non-vacuity -/
example : parseDef "BA_DEF_ BO_ \"FrInt\" INT 0 100;".toList = some { level := .frame, name := "FrInt".toList, definition := "INT 0 100".toList } := by
  lit_chars; decide +kernel
example : parseDef (renderDef { level := .global, name := "G".toList, definition := "ENUM \"a\",\"b\"".toList }) = some { level := .global, name := "G".toList, definition := "ENUM \"a\",\"b\"".toList } := by
  unfold renderDef Level.keyword; lit_chars; decide +kernel
example : parseDefDef "BA_DEF_DEF_ \"Note\" \"\";".toList = some ("Note".toList, []) := by
  lit_chars; decide +kernel
example : parseBa "BA_ \"SgStr\" SG_ 5 sig \"a; b\";".toList = some { attr := "SgStr".toList, target := .signal 5 "sig".toList, value := "\"a; b\"".toList } := by
  lit_chars; decide +kernel
example : parseBa (renderBa { attr := "GlI".toList, target := .global, value := "42".toList }) = some { attr := "GlI".toList, target := .global, value := "42".toList } := by
  unfold renderBa; lit_chars; decide +kernel

end CanVerif.C05c
