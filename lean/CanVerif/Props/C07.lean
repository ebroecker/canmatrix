import CanVerif.Model.Fields
/-!
# C07 — round trips preserve value interpretation where the format carries it (field kernels)

Type words: what each format stores for signedness / float type comes back as the same
(signed, float) pair - for integer signals the sign, for float signals the float flag (a float's
sign flag carries no meaning and DBF/KCD/SYM do not store it).
Number renderings (factor/offset as exact decimals) are in `Props/Num.lean`.
-/
namespace CanVerif.C07
open CanVerif

/-- what has to survive: the float flag, and for integers the sign -/
def typeKept (signed isFloat : Bool) (r : Bool × Bool) : Prop := r.2 = isFloat ∧ (isFloat = false → r.1 = signed)

-- The round trips below are finite checks: the four (signed, float) pairs, for DBF/KCD/DBC with the
-- float in both sizes; in each case the word written is a literal and the parser compares literals.
theorem dbf_type_roundtrip (signed isFloat : Bool) (size : Nat) :
    typeKept signed isFloat (dbfParseType (dbfTypeWord signed isFloat size)) := by
  unfold typeKept dbfParseType dbfTypeWord
  cases signed <;> cases isFloat <;> by_cases h : size > 32 <;> simp [h] <;> decide

theorem kcd_type_roundtrip (signed isFloat : Bool) (size : Nat) :
    typeKept signed isFloat (kcdParseType (kcdTypeWord signed isFloat size)) := by
  unfold typeKept kcdParseType kcdTypeWord
  cases signed <;> cases isFloat <;> by_cases h : size > 32 <;> simp [h] <;> decide

theorem sym_type_roundtrip (signed isFloat : Bool) :
    typeKept signed isFloat (symParseType (symTypeWord signed isFloat)) := by
  unfold typeKept symParseType symTypeWord
  cases signed <;> cases isFloat <;> simp <;> decide

/-- pre-fix witness: a float signal whose sign flag is set lost its float type in SYM -/
theorem sym_prefix_witness : (symParseType (symTypeWordPreFix true true)).2 ≠ true := by decide

/-- DBC: the sign character and the value-type code determine the pair -/
theorem dbc_type_roundtrip (signed isFloat : Bool) (size : Nat) :
    (dbcSignChar signed == '-') = signed ∧ ((dbcValType isFloat size).isSome = isFloat) := by
  unfold dbcSignChar dbcValType
  cases signed <;> cases isFloat <;> simp <;> decide

/-- SYM keeps a unit up to 16 characters unchanged -/
theorem sym_unit_kept (u : String) (h : u.toList.length ≤ 16) : symUnit u = u := by
  unfold symUnit
  rw [List.take_of_length_le h]
  simp

end CanVerif.C07
