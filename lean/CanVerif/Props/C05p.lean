import CanVerif.Proofs.DbcPost
import CanVerif.Props.C05i
import CanVerif.Props.C05o
/-!
# C05 — names longer than 32 characters come back (post-processing on top of the file round trip)

`dump` writes a frame or signal whose name is longer than 32 characters under its first 32 characters and gives it the attribute
`SystemMessageLongSymbol` / `SystemSignalLongSymbol` with the whole name as a text; `load` restores the name in its post-processing
(Model/DbcPost.lean, compared with the matrix `dbc.load` returns on every generated file: op `post`).  Here: the names of frames and
signals after the post-processing for every state of the line loop, and - on top of `dbc_file_roundtrip_line_for_line` - for every
written frame that carries the long-name attribute: the frame the reader returns at that place has that identifier and the long name.
-/
namespace CanVerif.C05p
open CanVerif CanVerif.Dbc CanVerif.Dbc.FileProofs

theorem splitDummy_none (fs : List PFrame) (h : ∀ f ∈ fs, isDummyFrame f = false) : splitDummy fs = (fs, []) :=
  splitDummy_of_no_dummy fs h

/-- identifier and name of every frame after the post-processing, when no frame is the pseudo frame of the signals without frame -/
theorem post_frame_names (m : RMatrix)
    (hnd : ∀ f ∈ m.frames, (longName "SystemMessageLongSymbol" f.name f.attrs).1 ≠ "VECTOR__INDEPENDENT_SIG_MSG".toList) :
    (postProcess m).frames.map (fun f => (f.key, f.name)) =
      m.frames.map fun f => (f.key, (longName "SystemMessageLongSymbol" f.name f.attrs).1) := by
  rw [postProcess_frames m hnd]
  simp only [postFrames3, postFrames2, postFrames1, List.map_map]
  rfl

/-- the names of the signals of every frame after the post-processing -/
theorem post_signal_names (m : RMatrix)
    (hnd : ∀ f ∈ m.frames, (longName "SystemMessageLongSymbol" f.name f.attrs).1 ≠ "VECTOR__INDEPENDENT_SIG_MSG".toList) :
    (postProcess m).frames.map (fun f => f.sigs.map (·.name)) =
      m.frames.map fun f => f.sigs.map fun s => (longName "SystemSignalLongSymbol" s.sg.name s.attrs).1 := by
  rw [postProcess_frames m hnd]
  simp only [postFrames3, postFrames2, postFrames1, List.map_map]
  apply List.map_congr_left
  intro f _
  simp only [Function.comp_apply, List.map_map]
  apply List.map_congr_left
  intro s _
  rfl

/-- **a long frame name survives the round trip**: the frame written under its first characters with the long-name attribute comes back,
at its place and with its identifier, under the long name -/
theorem long_frame_name_survives (es : List WEcu) (hes : wfEcus es = true) (ts : List WTable) (hts : wfTables ts = true)
    (ds : List DefLine) (hds : wfDefs ds = true) (dds : List DefDefLine) (hdds : wfDefaults ds dds = true)
    (ga : List (Str × Str)) (hga : wfAttrs (expectDefs ds dds) .global .global ga = true)
    (hea : ∀ e ∈ es, wfAttrs (expectDefs ds dds) .ecu (.ecu e.name) e.attrs = true)
    (ps : List (WFrame × (Nat × Bool))) (hwf : ∀ p ∈ ps, p.1.wf p.2 = true) (hdist : ps.Pairwise fun p q => p.2 ≠ q.2)
    (hfa : ∀ p ∈ ps, p.1.wfA (expectDefs ds dds) = true)
    (hnd : ∀ p ∈ ps, (longName "SystemMessageLongSymbol" p.1.bo.name (attrsOf p.1.attrs)).1 ≠ "VECTOR__INDEPENDENT_SIG_MSG".toList)
    (i : Nat) (p : WFrame × (Nat × Bool)) (hp : ps[i]? = some p) (long : Str)
    (hlong : lookupAttr (attrsOf p.1.attrs) "SystemMessageLongSymbol".toList = some ('"' :: long ++ ['"'])) :
    ∃ f : PFrame, (postProcess (readFile (writeDbc es ts ds dds ga (ps.map (·.1))))).frames[i]? = some f ∧ f.key = p.2 ∧ f.name = long := by
  have hfr := (C05o.dbc_file_roundtrip_line_for_line es hes ts hts ds hds dds hdds ga hga hea ps hwf hdist hfa).2.2.2.1
  have hnames := post_frame_names (readFile (writeDbc es ts ds dds ga (ps.map (·.1)))) (by
    rw [hfr]
    exact List.forall_mem_map.mpr hnd)
  rw [hfr, List.map_map] at hnames
  have hi := congrArg (fun l => l[i]?) hnames
  simp only [List.getElem?_map, hp, Option.map_some, Function.comp_apply] at hi
  cases hget : (postProcess (readFile (writeDbc es ts ds dds ga (ps.map (·.1))))).frames[i]? with
  | none => rw [hget] at hi; simp at hi
  | some f =>
    rw [hget] at hi
    simp only [Option.map_some, Option.some.injEq, Prod.mk.injEq] at hi
    refine ⟨f, rfl, hi.1, ?_⟩
    rw [hi.2]
    exact (CanVerif.C05i.long_name_restored "SystemMessageLongSymbol" _ _ long hlong).1

/-- **frames keep identifier and name** through the file and the post-processing when no frame carries a long-name attribute (names of at
most 32 characters) and none is the pseudo frame of the signals without frame -/
theorem dbc_file_keeps_frame_names (es : List WEcu) (hes : wfEcus es = true) (ts : List WTable) (hts : wfTables ts = true)
    (ds : List DefLine) (hds : wfDefs ds = true) (dds : List DefDefLine) (hdds : wfDefaults ds dds = true)
    (ga : List (Str × Str)) (hga : wfAttrs (expectDefs ds dds) .global .global ga = true)
    (hea : ∀ e ∈ es, wfAttrs (expectDefs ds dds) .ecu (.ecu e.name) e.attrs = true)
    (ps : List (WFrame × (Nat × Bool))) (hwf : ∀ p ∈ ps, p.1.wf p.2 = true) (hdist : ps.Pairwise fun p q => p.2 ≠ q.2)
    (hfa : ∀ p ∈ ps, p.1.wfA (expectDefs ds dds) = true)
    (hnolong : ∀ p ∈ ps, lookupAttr (attrsOf p.1.attrs) "SystemMessageLongSymbol".toList = none)
    (hnd : ∀ p ∈ ps, p.1.bo.name ≠ "VECTOR__INDEPENDENT_SIG_MSG".toList) :
    (postProcess (readFile (writeDbc es ts ds dds ga (ps.map (·.1))))).frames.map (fun f => (f.key, f.name)) =
      ps.map fun p => (p.2, p.1.bo.name) := by
  have hfr := (C05o.dbc_file_roundtrip_line_for_line es hes ts hts ds hds dds hdds ga hga hea ps hwf hdist hfa).2.2.2.1
  have hname : ∀ p ∈ ps, (longName "SystemMessageLongSymbol" (p.1.expectA p.2).name (p.1.expectA p.2).attrs).1 = p.1.bo.name := by
    intro p hp
    have := CanVerif.C05i.no_long_name "SystemMessageLongSymbol" p.1.bo.name (attrsOf p.1.attrs) (hnolong p hp)
    simp only [WFrame.expectA, WFrame.expect]
    rw [this]
  rw [post_frame_names _ (by
    rw [hfr]
    exact List.forall_mem_map.mpr fun q hq => by rw [hname q hq]; exact hnd q hq)]
  rw [hfr, List.map_map]
  apply List.map_congr_left
  intro p hp
  simp only [Function.comp_apply, hname p hp]
  rfl

/-! ## non-vacuity -/

def exLong : List (WFrame × (Nat × Bool)) :=
  [({ bo := ⟨291, "A_frame_name_that_is_longer_than".toList, 8, "ECU_A".toList⟩, sigs := [{ sg := CanVerif.C05h.exSg "Speed" 0 }],
      attrs := [("SystemMessageLongSymbol".toList, "\"A_frame_name_that_is_longer_than_32_characters\"".toList)] }, (291, false))]
def exLongDefs : List DefLine := [⟨.frame, "SystemMessageLongSymbol".toList, "STRING".toList⟩]

example : exLong.all (fun p => p.1.wf p.2 && p.1.wfA (expectDefs exLongDefs [])) = true := by
  unfold exLong exLongDefs; lit_chars; decide +kernel
example : (postProcess (readFile (writeDbc CanVerif.C05k.exEcusA [] exLongDefs [] [] (exLong.map (·.1))))).frames.map (fun f => (f.key, f.name)) =
    [((291, false), "A_frame_name_that_is_longer_than_32_characters".toList)] := by
  unfold exLong exLongDefs C05k.exEcusA; lit_chars; decide +kernel

end CanVerif.C05p
