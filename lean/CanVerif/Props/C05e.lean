import CanVerif.Model.DbcTables
import CanVerif.Proofs.DbcTables
import CanVerif.Proofs.StrLit
/-!
# C05 (continued) — global value tables and signal groups are read back as written: `VAL_TABLE_`, `SIG_GROUP_`
-/
namespace CanVerif.C05e
open CanVerif CanVerif.Dbc

/-- `VAL_TABLE_`: name, keys and texts come back, also texts with quotes, blanks at their ends or semicolons, and the empty table -/
theorem vt_line_roundtrip (v : VtLine) (h : wfVt v = true) : parseVt (renderVt v) = some v :=
  TableProofs.parseVt_renderVt v h

/-- in particular a table without entries (written with a blank behind the name, which the reader's pattern asks for) -/
theorem vt_empty_roundtrip (name : Str) (h : isIdent name = true) :
    parseVt (renderVt { name := name, entries := [] }) = some { name := name, entries := [] } :=
  TableProofs.parseVt_renderVt _ (by simpa [wfVt] using h)

/-- `SIG_GROUP_`: frame, group name, group number and the members in their order come back -/
theorem group_line_roundtrip (g : GroupLine) (h : wfGroup g = true) : parseGroup (renderGroup g) = some g :=
  TableProofs.parseGroup_renderGroup g h

/-! non-vacuity -/
example : renderVt { name := "Tab".toList, entries := [("0".toList, "Off".toList), ("1".toList, "two words".toList)] } =
    "VAL_TABLE_ Tab 0 \"Off\" 1 \"two words\";".toList := by
  unfold renderVt; lit_chars; decide +kernel
example : parseVt "VAL_TABLE_ Tab 0 \"Off\" 1 \"two words\";".toList =
    some { name := "Tab".toList, entries := [("0".toList, "Off".toList), ("1".toList, "two words".toList)] } := by
  lit_chars; decide +kernel
example : parseGroup "SIG_GROUP_ 291 Grp 1 : a b;".toList = some { frameId := 291, name := "Grp".toList, groupId := 1, members := ["a".toList, "b".toList] } := by
  lit_chars; decide +kernel
example : parseGroup (renderGroup { frameId := 5, name := "G".toList, groupId := 2, members := [] }) = some { frameId := 5, name := "G".toList, groupId := 2, members := [] } := by
  unfold renderGroup; lit_chars; decide +kernel
example : parseVt (renderVt { name := "T".toList, entries := [("0".toList, "x ".toList), ("1".toList, "q\"uote; semi".toList)] }) =
    some { name := "T".toList, entries := [("0".toList, "x ".toList), ("1".toList, "q\"uote; semi".toList)] } := by
  unfold renderVt; lit_chars; decide +kernel
/-- before fix (see known_findings.json, C05 global value tables) the writer did not escape quotes: the one entry `2 "q"uote"` of such a line
is read as two -/
example : (parseVt "VAL_TABLE_ T 2 \"q\"uote\";".toList).map (·.entries.length) = some 2 := by
  lit_chars; decide +kernel

end CanVerif.C05e
