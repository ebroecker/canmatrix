import CanVerif.Props.C05k
/-!
# C05 — the core round trip with the ECUs of the file

`writeCoreE` is `writeCore` with the `BU_:` line in front of the frame section and the comments of the ECUs behind the
comments of the signals, as `dbc.dump` writes them (tied to the real file on every generated matrix, op `core`).  For every list of ECUs
with pairwise different names of at least two characters - each with or without a comment over any number of lines - and every list of
frames inside the envelope `WFrame.wf`, reading what was written builds exactly these ECUs and exactly these frames.  The theorem is the
one of Props/C05k for ECUs without attributes and no definitions.
-/
namespace CanVerif.C05j
open CanVerif CanVerif.Dbc CanVerif.Dbc.FileProofs

/-- the core round trip with the ECUs -/
theorem dbc_roundtrip_core_with_ecus (es : List WEcu) (hes : wfEcus es = true) (ps : List (WFrame × (Nat × Bool)))
    (hwf : ∀ p ∈ ps, p.1.wf p.2 = true) (hdist : ps.Pairwise fun p q => p.2 ≠ q.2) :
    (readFile (writeCoreE es (ps.map (·.1)))).ecus = es.map WEcu.expect ∧
    (readFile (writeCoreE es (ps.map (·.1)))).frames = ps.map (fun p => p.1.expect p.2) ∧
    (readFile (writeCoreE es (ps.map (·.1)))).pending = none := by
  have hes' : wfEcus (es.map bareEcu) = true := by
    rw [← hes]; simp only [wfEcus, List.all_map, List.map_map, Function.comp_def, bareEcu]; rfl
  have h := CanVerif.C05k.dbc_roundtrip_core_with_definitions (es.map bareEcu) hes' [] rfl [] rfl [] rfl
    (by intro q hq; obtain ⟨e, _, rfl⟩ := List.mem_map.mp hq; rfl) ps hwf hdist
  rw [← writeCoreE_bare, List.map_map] at h
  obtain ⟨hecus, _, _, hframes, hpending⟩ := h
  exact ⟨hecus, hframes, hpending⟩

/-- statements about frames, signals and ECUs in any order: the frames go through the updates of the statements that name them, the
statements about ECUs leave them alone -/
theorem frames_after_statements_and_ecus (its : List Item) (m : RMatrix) (hu : KeysUnique m)
    (hall : ∀ it ∈ its, (itemFrameUpd it).isSome = true ∨ isEcuItem it = true) :
    (its.foldl applyItem m).frames = m.frames.map fun f => its.foldl (fun acc it => itemUpd it acc) f :=
  frames_after_items its m hu hall

/-- and the list of ECUs only sees the statements about ECUs -/
theorem ecus_after_statements (its : List Item) (m : RMatrix)
    (hall : ∀ it ∈ its, (itemFrameUpd it).isSome = true ∨ isEcuItem it = true) :
    (its.foldl applyItem m).ecus = its.foldl (fun es it => ecuUpd it es) m.ecus :=
  ecus_after_items its m hall

/-! ## non-vacuity -/

example : wfEcus exEcus = true := exEcus_wf
example : ((writeCoreE exEcus (CanVerif.C05h.exFrames.map (·.1))).take 3).map String.ofList = ["BU_: ECU_A ECU_B Gateway ", "", "BO_ 291 Engine: 8 ECU_A"] := by
  rw [← List.map_inj_right (f := String.toList) (fun _ _ => String.toList_injective)]
  simp only [List.map_map, Function.comp_def, String.toList_ofList, List.map_id']
  unfold exEcus; lit_chars; decide +kernel
example : (readFile (writeCoreE exEcus (CanVerif.C05h.exFrames.map (·.1)))).ecus = exEcus.map WEcu.expect :=
  (dbc_roundtrip_core_with_ecus exEcus exEcus_wf _ CanVerif.C05h.exFrames_wf CanVerif.C05h.exFrames_distinct).1
example : (readFile (writeCoreE exEcus (CanVerif.C05h.exFrames.map (·.1)))).frames = CanVerif.C05h.exFrames.map (fun p => p.1.expect p.2) :=
  (dbc_roundtrip_core_with_ecus exEcus exEcus_wf _ CanVerif.C05h.exFrames_wf CanVerif.C05h.exFrames_distinct).2.1

end CanVerif.C05j
