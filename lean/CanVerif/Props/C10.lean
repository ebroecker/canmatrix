import CanVerif.Model.Lookup
import CanVerif.Proofs.ArbId
import CanVerif.Proofs.Lookup
/-!
# C10 — frame lookups stay coherent with the matrix over every edit history

At every point in any sequence of edits through the matrix API, looking a frame up by identifier,
name or PGN returns a frame that is currently in that matrix and carries the requested key, and
returns nothing exactly when no such frame exists; lookups in one matrix are never influenced by
the contents or history of any other matrix.

The theorems are by induction over the operation list: no bound on the length of the history, the
number of matrices or frames.

The memo invariant (`MatInv`, `Inv`) and the matrices an operation may modify (`targets`) stand in
`Proofs/Lookup.lean`, in front of the lemmas about them.
-/
namespace CanVerif.C10
open CanVerif

theorem inv_init : Inv {} := fun _ hx => nomatch hx

theorem inv_step (w : World) (op : LOp) (h : Inv w) : Inv (step w op).1 := by
  cases op
  -- `Inv` speaks of the matrices only, and the two frame edits write into the heap only
  case setId | renameFrame => simp only [step]; split <;> exact h
  all_goals exact (LookupProofs.step_moves w _ (by rintro _ _ _ ⟨⟩) (by rintro _ _ _ ⟨⟩)).inv h

theorem inv_run (w : World) (ops : List LOp) (h : Inv w) : Inv (run w ops).1 := by
  induction ops generalizing w with
  | nil => exact h
  | cons op rest ih =>
    simp only [run]
    exact ih (step w op).1 (inv_step w op h)

theorem lookupId_sound (w : World) (x : Mat) (hx : MatInv x) (id : Nat) (ext : Bool) (h : Nat)
    (hr : (lookupId w x id ext).1 = some h) : h ∈ x.frames ∧ carriesId w id ext h = true := by
  rcases LookupProofs.lookupId_fst w x id ext with ⟨e, he, h1, hc⟩ | h1 <;> rw [h1] at hr
  · cases hr; exact ⟨hx e he, hc⟩
  · exact ⟨List.mem_of_find?_eq_some hr, List.find?_some hr⟩

theorem lookupId_complete (w : World) (x : Mat) (hx : MatInv x) (id : Nat) (ext : Bool) :
    (lookupId w x id ext).1 = none ↔ ∀ h ∈ x.frames, carriesId w id ext h = false := by
  constructor
  · intro hr
    rcases LookupProofs.lookupId_fst w x id ext with ⟨e, _, h1, _⟩ | h1 <;> rw [h1] at hr
    · cases hr
    · exact fun h hh => Bool.eq_false_iff.mpr (List.find?_eq_none.mp hr h hh)
  · refine fun hall => Option.eq_none_iff_forall_ne_some.mpr fun h hr => ?_
    have := lookupId_sound w x hx id ext h hr
    exact Bool.false_ne_true ((hall h this.1).symm.trans this.2)

/-- the lookup changes nothing but the memo, and keeps the memo invariant -/
theorem lookupId_frames (w : World) (x : Mat) (hx : MatInv x) (id : Nat) (ext : Bool) :
    (lookupId w x id ext).2.frames = x.frames ∧ MatInv (lookupId w x id ext).2 := by
  exact ⟨LookupProofs.lookupId_frames_eq w x id ext, LookupProofs.lookupId_memo_inv w x hx id ext⟩

theorem lookupName_sound_complete (w : World) (x : Mat) (name : String) :
    (∀ h, lookupName w x name = some h → h ∈ x.frames ∧ ∃ o, w.obj h = some o ∧ o.name = name) ∧
    (lookupName w x name = none ↔ ∀ h ∈ x.frames, ∀ o, w.obj h = some o → o.name ≠ name) := by
  constructor
  · intro h hr
    obtain ⟨hm, o, ho, hp⟩ := LookupProofs.find_obj_sound w x.frames (fun o => o.name == name) h hr
    exact ⟨hm, o, ho, by simpa using hp⟩
  · refine Iff.trans (LookupProofs.find_obj_complete w x.frames (fun o => o.name == name)) ?_
    simp

theorem lookupPgn_sound_complete (w : World) (x : Mat) (p : Nat) (hp : p < 2 ^ 18) :
    ∃ q, ArbId.fromPgn p = .ok q ∧
    (∀ h, lookupPgn w x p = some h → h ∈ x.frames ∧ ∃ o, w.obj h = some o ∧ o.ext = true ∧
        ArbId.pgnOfId o.id = ArbId.pgnOfId q.id) ∧
    (lookupPgn w x p = none ↔ ∀ h ∈ x.frames, ∀ o, w.obj h = some o → o.ext = true →
        ArbId.pgnOfId o.id ≠ ArbId.pgnOfId q.id) := by
  refine ⟨_, ArbId.fromPgn_ok p hp, ?_, ?_⟩
  · intro h hr
    unfold lookupPgn at hr
    rw [ArbId.fromPgn_ok p hp] at hr
    obtain ⟨hm, o, ho, hp⟩ := LookupProofs.find_obj_sound w x.frames
      (fun o => o.ext && ArbId.pgnOfId o.id == ArbId.pgnOfId (p <<< 8)) h hr
    exact ⟨hm, o, ho, by simpa using hp⟩
  · unfold lookupPgn
    rw [ArbId.fromPgn_ok p hp]
    refine Iff.trans (LookupProofs.find_obj_complete w x.frames
      (fun o => o.ext && ArbId.pgnOfId o.id == ArbId.pgnOfId (p <<< 8))) ?_
    simp

/-- what the property demands of the output of one operation, judged against the state `w` in
which it is executed -/
def outOk (w : World) (op : LOp) (out : LOut) : Prop :=
  match op, out with
  | .byId m id ext, .found r =>
    ∃ x, w.mat m = some x ∧
      (match r with
       | some h => h ∈ x.frames ∧ carriesId w id ext h = true
       | none => ∀ h ∈ x.frames, carriesId w id ext h = false)
  | .byName m name, .found r =>
    ∃ x, w.mat m = some x ∧
      (match r with
       | some h => h ∈ x.frames ∧ ∃ o, w.obj h = some o ∧ o.name = name
       | none => ∀ h ∈ x.frames, ∀ o, w.obj h = some o → o.name ≠ name)
  | _, _ => True

def runOk : World → List LOp → Prop
  | _, [] => True
  | w, op :: rest => outOk w op (step w op).2 ∧ runOk (step w op).1 rest

/-- one operation, executed in a state satisfying the invariant, answers coherently -/
theorem outOk_step (w : World) (hw : Inv w) (op : LOp) : outOk w op (step w op).2 := by
  cases op with
  | byId m id ext =>
    simp only [step]
    split
    · rename_i x hx
      have hxI : MatInv x := hw x (List.mem_of_getElem? hx)
      refine ⟨x, hx, ?_⟩
      cases hr : (lookupId w x id ext).1 with
      | none => exact (lookupId_complete w x hxI id ext).mp hr
      | some h => exact lookupId_sound w x hxI id ext h hr
    · trivial
  | byName m name =>
    simp only [step]
    split
    · rename_i x hx
      refine ⟨x, hx, ?_⟩
      cases hr : lookupName w x name with
      | none => exact (lookupName_sound_complete w x name).2.mp hr
      | some h => exact (lookupName_sound_complete w x name).1 h hr
    · trivial
  | _ => simp only [outOk]

/-- generalisation of `history_coherent`: from every state satisfying the invariant -/
theorem runOk_of_inv (w : World) (hw : Inv w) (ops : List LOp) : runOk w ops := by
  induction ops generalizing w with
  | nil => trivial
  | cons op rest ih => exact ⟨outOk_step w hw op, ih (step w op).1 (inv_step w op hw)⟩

/-- For every finite history of operations, starting from the empty world, every lookup returns a
frame currently in that matrix carrying the key, and nothing exactly when no such frame exists. -/
theorem history_coherent (ops : List LOp) : runOk {} ops := by
  exact runOk_of_inv {} inv_init ops

/-- Frame condition: an operation leaves every matrix it does not target exactly as it was (frame
list and memo); with `lookupId`/`lookupName`/`lookupPgn` being functions of the heap and the
matrix's own record only, a lookup in one matrix cannot be influenced by the contents or history of
another matrix. -/
theorem noninterference (w : World) (op : LOp) (i : Nat) (hi : i < w.mats.length)
    (hni : i ∉ targets op) : (step w op).1.mats[i]? = w.mats[i]? := by
  cases op
  case setId | renameFrame => simp only [step]; split <;> rfl
  all_goals exact (LookupProofs.step_moves w _ (by rintro _ _ _ ⟨⟩) (by rintro _ _ _ ⟨⟩)).mats.2 i hi hni

/-- frame objects change only by explicit frame edits (`setId`, `renameFrame`); every other
operation leaves all existing objects untouched (allocation only appends) -/
theorem heap_stable (w : World) (op : LOp) (h : Nat) (hh : h < w.heap.length)
    (hop : ∀ a b c, op ≠ .setId a b c) (hop' : ∀ a b c, op ≠ .renameFrame a b c) :
    (step w op).1.heap[h]? = w.heap[h]? := by
  exact LookupProofs.step_heap_stable w op hop hop' h hh

/-! non-vacuity: pre-fix failure histories now behave -/
example : (run {} [.newMatrix, .newFrame "A" 0x10 false, .addFrame 0 0, .byId 0 0x10 false,
                   .delFrame 0 0, .byId 0 0x10 false]).2.getLast? = some (.found none) := by decide
example : (run {} [.newMatrix, .newFrame "A" 0x10 false, .addFrame 0 0, .byId 0 0x10 false,
                   .setId 0 0x20 false, .byId 0 0x10 false, .byId 0 0x20 false]).2.drop 5
            = [.found none, .found (some 0)] := by decide

/-- a frame is returned only if it is in the matrix and carries the requested header id -/
theorem byHeaderId_sound (frames : List (Nat × Option Nat)) (q h : Nat) (hr : byHeaderId frames q = some h) :
    (h, some q) ∈ frames := by
  obtain ⟨⟨a, b⟩, hf, rfl⟩ := Option.map_eq_some_iff.mp hr
  have hb : b = some q := by simpa using List.find?_some hf
  exact hb ▸ List.mem_of_find?_eq_some hf

/-- nothing is returned exactly when no frame of the matrix carries the header id (0 is a header id like any other) -/
theorem byHeaderId_complete (frames : List (Nat × Option Nat)) (q : Nat) :
    byHeaderId frames q = none ↔ ∀ f ∈ frames, f.2 ≠ some q := by
  unfold byHeaderId
  simp only [Option.map_eq_none_iff, List.find?_eq_none, beq_iff_eq]

end CanVerif.C10
