import CanVerif.Model.Lookup
import CanVerif.Spec.Lookup
import CanVerif.Proofs.LookupIndep
/-!
# C10, last sentence — the independence judge of `Spec/Lookup.lean` accepts every history of the model

`Spec.snapAgrees` is what the check evaluates on the implementation's snapshots (a frame object
changes identifier, format or name only when an edit addresses it).  Here the same judge is run on
the model's own snapshots, taken where the harness takes them (before every lookup, after every
operation that creates frame objects in a matrix), and shown to accept every history.

What a snapshot holds, what the judge is told (`snapMat`, `snapWith`, `editWith`) and the invariant
`KnownOk` stand in `Proofs/LookupIndep.lean`, in front of the lemmas about them.
-/
namespace CanVerif.C10b
open CanVerif

/-- the judge run along a history of the model -/
def judge : World → List Spec.Known → List LOp → Bool
  | _, _, [] => true
  | w, ks, op :: rest =>
    let w' := (step w op).1
    let ks1 := Spec.noteEdit ks (editWith w op)
    match snapWith w w' op with
    | some sn => Spec.snapAgrees ks1 sn && judge w' (Spec.noteSnap ks1 sn) rest
    | none => judge w' ks1 rest

/-- The independence judge accepts every history of the model: at every snapshot, every frame the
judge has met before is what its own history (creation, `setId`, renamings) says. -/
theorem judge_accepts_from (w : World) (ks : List Spec.Known) (hk : KnownOk w ks) (ops : List LOp) :
    judge w ks ops = true := by
  induction ops generalizing w ks with
  | nil => rfl
  | cons op rest ih =>
    have h1 := LookupIndep.noteEdit_ok w op ks hk
    simp only [judge]
    split
    · rename_i sn hsn
      have ht := LookupIndep.snapWith_true w op hsn
      rw [Bool.and_eq_true]
      exact ⟨LookupIndep.snapAgrees_of h1 ht, ih _ _ (LookupIndep.noteSnap_ok h1 ht)⟩
    · exact ih _ _ h1

theorem judge_accepts (ops : List LOp) : judge {} [] ops = true :=
  judge_accepts_from {} [] (by intro k hk; cases hk) ops

/-- the judge is not vacuous: a history in which a copy shares its identifier with the original
(what a shallow copy of the frame would do) is rejected -/
example :
    Spec.snapAgrees
      (Spec.noteEdit (Spec.noteSnap [] [{ handle := 1, name := "A", id := 0x10, ext := false }]) (.setId 0 0x20 false))
      [{ handle := 1, name := "A", id := 0x20, ext := false }] = false := by decide

end CanVerif.C10b
