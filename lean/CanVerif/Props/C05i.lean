import CanVerif.Model.DbcPost
import CanVerif.Proofs.DbcPost
/-!
# C05 (continued) — the post-processing of the DBC reader (Model/DbcPost.lean, compared with the matrix `dbc.load` returns on every
generated file, as written and with bad lines inserted: op `post`)

Three facts about its result, for every matrix the line loop can have built: the placeholder `Vector__XXX` is never listed as an ECU;
every frame's receiver list is the union of its signals' receivers in their order of first occurrence (the state C11 starts from); an
object that carries a long-name attribute gets that name and loses the attribute.
-/
namespace CanVerif.C05i
open CanVerif CanVerif.Dbc

/-- the placeholder is not an ECU of the result -/
theorem placeholder_not_listed (m : RMatrix) : "Vector__XXX".toList ∉ (postProcess m).ecus := by
  unfold postProcess
  simp only
  intro h
  simp only [List.mem_filter, bne_self_eq_false, Bool.false_eq_true, and_false] at h

/-- the long name replaces the short one and its carrier attribute is gone -/
theorem long_name_restored (attr : String) (short : Str) (attrs : List (Str × Str)) (long : Str)
    (h : lookupAttr attrs attr.toList = some ('"' :: long ++ ['"'])) :
    (longName attr short attrs).1 = long ∧ lookupAttr (longName attr short attrs).2 attr.toList = none := by
  unfold longName
  rw [h]
  refine ⟨by simp [stripQuotes], ?_⟩
  simp only [lookupAttr, delAttr, Option.map_eq_none_iff, List.find?_eq_none, List.mem_filter, bne_iff_ne, ne_eq, and_imp]
  intro kv _ hne
  simpa using hne

/-- without the attribute name and attributes stay -/
theorem no_long_name (attr : String) (short : Str) (attrs : List (Str × Str)) (h : lookupAttr attrs attr.toList = none) :
    longName attr short attrs = (short, attrs) := by
  unfold longName; rw [h]

/-! closed instances: a file with a long frame name, the placeholder as receiver, a STRING attribute and signals without frame -/
example : exPost.ecus = ["ECU_A".toList, "ECU_B".toList, "ECU_C".toList] := by
  rw [exPost_eq]
example : exPost.frames.map (fun f => (f.name, f.tx, f.rx)) =
    [("A_frame_name_that_is_longer_than_32_characters".toList, ["ECU_A".toList], ["ECU_B".toList, "ECU_C".toList])] := by
  rw [exPost_eq]; rfl
example : exPost.frames.map (fun f => f.attrs) = [[("Note".toList, "two words".toList)]] := by
  rw [exPost_eq]; rfl
example : exPost.free.map (fun s => (s.name, s.receivers)) = [("lonely".toList, [])] := by
  rw [exPost_eq]; rfl
example : exPost.frames.map (fun f => f.sigs.map (·.receivers)) = [[[], ["ECU_B".toList, "ECU_C".toList]]] := by
  rw [exPost_eq]; rfl

end CanVerif.C05i
