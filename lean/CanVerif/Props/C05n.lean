import CanVerif.Proofs.DbcWhole
import CanVerif.Proofs.DbcExamples
/-!
# C05 — the whole file: the matrix with its value tables

Start here: the theorems of Props/C05h-m are this one on a matrix without some of the sections, Props/C05o is it with header and
empty lines; the proof is Proofs/DbcWhole `read_sections` with the lines in front of the statement sections.  The theorems speak of
pairs of a frame and its identifier because `WFrame.expect` needs the identifier and `WFrame.wf f k` ties it to the number in `f.bo`.

`writeCoreH` is `writeCoreF` with the `VAL_TABLE_` lines between the `BU_:` line and the frame section - every line
`dbc.dump` writes except the fixed header and the environment variables (tied to the real file on every generated matrix, op `core`).
The reader hands the keys of a `VAL_TABLE_` statement to `int()` (Model/DbcFile.lean `pyIntKey`; a key that is no number is a line error,
compared with the real reader on files with such lines); the writer prints the keys of the dictionary, and for every list of tables with
pairwise different names and keys the statement stores exactly the written table.
-/
namespace CanVerif.C05n
open CanVerif CanVerif.Dbc CanVerif.Dbc.FileProofs

/-- the round trip of the whole matrix: all seven components of the reader's state -/
theorem dbc_whole_file_roundtrip (es : List WEcu) (hes : wfEcus es = true) (ts : List WTable) (hts : wfTables ts = true)
    (ds : List DefLine) (hds : wfDefs ds = true) (dds : List DefDefLine) (hdds : wfDefaults ds dds = true)
    (ga : List (Str × Str)) (hga : wfAttrs (expectDefs ds dds) .global .global ga = true)
    (hea : ∀ e ∈ es, wfAttrs (expectDefs ds dds) .ecu (.ecu e.name) e.attrs = true)
    (ps : List (WFrame × (Nat × Bool))) (hwf : ∀ p ∈ ps, p.1.wf p.2 = true) (hdist : ps.Pairwise fun p q => p.2 ≠ q.2)
    (hfa : ∀ p ∈ ps, p.1.wfA (expectDefs ds dds) = true) :
    (readFile (writeCoreH es ts ds dds ga (ps.map (·.1)))).ecus = es.map WEcu.expectA ∧
    (readFile (writeCoreH es ts ds dds ga (ps.map (·.1)))).defs = expectDefs ds dds ∧
    (readFile (writeCoreH es ts ds dds ga (ps.map (·.1)))).attrs = attrsOf ga ∧
    (readFile (writeCoreH es ts ds dds ga (ps.map (·.1)))).frames = ps.map (fun p => p.1.expectA p.2) ∧
    (readFile (writeCoreH es ts ds dds ga (ps.map (·.1)))).pending = none ∧
    (readFile (writeCoreH es ts ds dds ga (ps.map (·.1)))).errors = 0 ∧
    (readFile (writeCoreH es ts ds dds ga (ps.map (·.1)))).tables = ts.map WTable.line := by
  rw [writeCoreH_eq]
  unfold readFile
  rw [List.foldl_append, List.foldl_append, List.foldl_append, List.foldl_append, bu_line es hes, vt_lines ts hts _ rfl rfl,
    gap_line { ecus := es.map plainEcu, tables := ts.map WTable.line } rfl]
  obtain ⟨mAfter, hmAfter, hframes, hrest, hecus, herrors⟩ :=
    frame_section ps hwf { ecus := es.map plainEcu, tables := ts.map WTable.line } rfl rfl
  obtain ⟨m, hm, hok, r⟩ := read_sections es hes ds hds dds hdds ga hga hea ps hwf hdist hfa mAfter hframes hrest.pending hecus hrest.defs hrest.attrs
  rw [hmAfter, read_file _ mAfter hrest.pending hok, hm]
  exact ⟨r.ecus, r.defs, r.attrs, r.frames, r.pending, r.errors.trans herrors, r.tables.trans hrest.tables⟩

/-- `int()` on a key the writer printed gives the key back -/
theorem written_key_is_read (k : Nat) : pyIntKey (natDigits k) = some (k : Int) := pyIntKey_natDigits k

/-- a `VAL_TABLE_` statement with pairwise different keys stores its table under its name -/
theorem table_statement_effect (m : RMatrix) (t : WTable) (hk : (t.entries.map (·.1)).Nodup) :
    applyItem m (.vt t.line) = { m with tables := applyCore.assocSetTable m.tables t.line } :=
  apply_vt m t hk

/-- C20 for this statement: a table with a key that `int()` refuses changes nothing but the count of printed errors -/
theorem refused_table_only_counted (m : RMatrix) (v : VtLine)
    (h : ((v.entries.foldl (fun acc (e : Str × Str) => assocSet acc e.1 e.2) ([] : List (Str × Str))).mapM
      (fun (e : Str × Str) => (pyIntKey e.1).map fun i => (i, e.2))) = none) :
    applyItem m (.vt v) = m.err := by
  have e1 : applyItem m (.vt v) = applyCore m (.vt v) := rfl
  rw [e1]
  simp only [applyCore, h]

/-! ## non-vacuity, and the line error of a key that is no number -/

example : wfTables exTables = true := exTables_wf
example : (readFile (writeCoreH CanVerif.C05k.exEcusA exTables CanVerif.C05k.exDefs CanVerif.C05k.exDefaults CanVerif.C05k.exGlobal
    (CanVerif.C05l.exFramesA.map (·.1)))).tables = exTables.map WTable.line :=
  (dbc_whole_file_roundtrip _ CanVerif.C05k.exEcusA_wf _ exTables_wf _ CanVerif.C05k.exDefs_wf _ CanVerif.C05k.exDefaults_wf _ CanVerif.C05k.exGlobal_wf
    CanVerif.C05k.exEcusA_attrs_wf _ CanVerif.C05l.exFramesA_wf CanVerif.C05l.exFramesA_distinct CanVerif.C05l.exFramesA_attrs_wf).2.2.2.2.2.2
example : ((writeCoreH CanVerif.C05k.exEcusA exTables [] [] [] []).take 5).map String.ofList =
    ["BU_: ECU_A ECU_B Gateway ", "", "VAL_TABLE_ Gear 0 \"N\" 1 \"D\" 15 \"invalid \\\"x\\\"\";", "VAL_TABLE_ Empty ;", ""] := by
  rw [← List.map_inj_right (f := String.toList) (fun _ _ => String.toList_injective)]
  simp only [List.map_map, Function.comp_def, String.toList_ofList, List.map_id']
  unfold exTables CanVerif.C05k.exEcusA; lit_chars; decide +kernel
example : (readFile ["VAL_TABLE_ Gear 0 \"N\" x \"D\";".toList]).errors = 1 ∧ (readFile ["VAL_TABLE_ Gear 0 \"N\" x \"D\";".toList]).tables = [] := by
  lit_chars; decide +kernel
example : (readFile ["VAL_TABLE_ Gear 0 \"N\" +1_0 \"D\" 010 \"E\";".toList]).tables = [⟨"Gear".toList, [("0".toList, "N".toList), ("10".toList, "E".toList)]⟩] := by
  lit_chars; decide +kernel

end CanVerif.C05n
