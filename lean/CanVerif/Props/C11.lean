import CanVerif.Model.EcuOps
import CanVerif.Proofs.EcuOps
/-!
# C11 — ECU rename / delete / update keep every sender and receiver reference consistent

Renaming an ECU replaces every reference to it (frame senders, receivers of the frames' signals,
frame receivers) by the new name and changes nothing else; deleting an ECU removes it and every
reference to it; updating the ECU list makes every referenced ECU exist exactly once; removing
obsolete ECUs removes exactly the unreferenced ones.  After each of these operations every frame's
receiver list equals the union of its signals' receivers.

Unbounded: any number of ECUs, frames, signals; any sequence of operations.
-/
namespace CanVerif.C11
open CanVerif
open CanVerif.EcuOps

inductive Forall2 {α β : Type} (R : α → β → Prop) : List α → List β → Prop
  | nil : Forall2 R [] []
  | cons {a b l₁ l₂} : R a b → Forall2 R l₁ l₂ → Forall2 R (a :: l₁) (b :: l₂)

def NodupRefs (m : EMat) : Prop :=
  m.ecus.Nodup ∧ ∀ f ∈ m.frames, f.transmitters.Nodup ∧ f.receivers.Nodup ∧ ∀ s ∈ f.sigs, s.receivers.Nodup

def UpToDate (f : EFrame) : Prop := ∀ x, x ∈ f.receivers ↔ ∃ s ∈ f.sigs, x ∈ s.receivers

def Consistent (m : EMat) : Prop := ∀ f ∈ m.frames, UpToDate f

/-- the state the readers produce -/
def Wf (m : EMat) : Prop := NodupRefs m ∧ Consistent m

theorem Forall2.of_map {α β : Type} {R : α → β → Prop} {g : α → β} :
    ∀ (l : List α), (∀ a ∈ l, R a (g a)) → Forall2 R l (l.map g)
  | [], _ => Forall2.nil
  | a :: l, h =>
    Forall2.cons (h a List.mem_cons_self) (Forall2.of_map l fun b hb => h b (List.mem_cons_of_mem _ hb))

theorem Forall2.rfl' {α : Type} {R : α → α → Prop} :
    ∀ (l : List α), (∀ a ∈ l, R a a) → Forall2 R l l :=
  fun l h => by simpa using Forall2.of_map (g := id) l h

theorem Forall2.mono {α β : Type} {R S : α → β → Prop} {l : List α} {l' : List β}
    (h : Forall2 R l l') (hi : ∀ a b, a ∈ l → b ∈ l' → R a b → S a b) : Forall2 S l l' := by
  induction h with
  | nil => exact Forall2.nil
  | cons hab _ ih =>
    exact Forall2.cons (hi _ _ List.mem_cons_self List.mem_cons_self hab)
      (ih fun a b ha hb => hi a b (List.mem_cons_of_mem _ ha) (List.mem_cons_of_mem _ hb))

theorem Forall2.comp {α β γ : Type} {R : α → β → Prop} {S : β → γ → Prop} {T : α → γ → Prop}
    {l₁ : List α} {l₂ : List β} {l₃ : List γ}
    (h₁ : Forall2 R l₁ l₂) (h₂ : Forall2 S l₂ l₃)
    (h : ∀ a b c, a ∈ l₁ → R a b → S b c → T a c) : Forall2 T l₁ l₃ := by
  induction h₁ generalizing l₃ with
  | nil => cases h₂; exact Forall2.nil
  | cons hab _ ih =>
    cases h₂ with
    | cons hbc h₂' =>
      exact Forall2.cons (h _ _ _ List.mem_cons_self hab hbc)
        (ih h₂' fun a b c ha => h a b c (List.mem_cons_of_mem _ ha))

theorem Forall2.exists_left {α β : Type} {R : α → β → Prop} {l : List α} {l' : List β}
    (h : Forall2 R l l') {b : β} (hb : b ∈ l') : ∃ a ∈ l, R a b := by
  induction h with
  | nil => cases hb
  | cons hab _ ih =>
    rcases List.mem_cons.mp hb with rfl | e
    · exact ⟨_, List.mem_cons_self, hab⟩
    · exact (ih e).imp fun a h => ⟨List.mem_cons_of_mem _ h.1, h.2⟩

def NodupFrame (f : EFrame) : Prop :=
  f.transmitters.Nodup ∧ f.receivers.Nodup ∧ ∀ s ∈ f.sigs, s.receivers.Nodup

theorem wf_mk {e : List String} {fs : List EFrame} {fr : List ESig} (he : e.Nodup)
    (hf : ∀ f ∈ fs, NodupFrame f ∧ UpToDate f) : Wf { ecus := e, frames := fs, freeSigs := fr } :=
  ⟨⟨he, fun f h => (hf f h).1⟩, fun f h => (hf f h).2⟩

theorem wf_frame {m : EMat} (hwf : Wf m) {f : EFrame} (hf : f ∈ m.frames) :
    NodupFrame f ∧ UpToDate f := ⟨hwf.1.2 f hf, hwf.2 f hf⟩

theorem upToDate_updateReceiver (f : EFrame) : UpToDate f.updateReceiver :=
  fun _ => mem_updateReceiver

theorem nodupFrame_updateReceiver {f : EFrame} (ht : f.transmitters.Nodup)
    (hs : ∀ s ∈ f.sigs, s.receivers.Nodup) : NodupFrame f.updateReceiver :=
  ⟨ht, nodup_updateReceiver f, hs⟩

/-- `update_receiver` makes a frame's receiver list the duplicate-free union of its signals' receivers -/
theorem updateReceiver_upToDate (f : EFrame) :
    UpToDate f.updateReceiver ∧ f.updateReceiver.receivers.Nodup ∧
    f.updateReceiver.sigs = f.sigs ∧ f.updateReceiver.transmitters = f.transmitters ∧
    f.updateReceiver.name = f.name :=
  ⟨upToDate_updateReceiver f, nodup_updateReceiver f, rfl, rfl, rfl⟩

/-- how a reference list changes under a rename of `old` to `new` -/
def RenamedList (old new : String) (l l' : List String) : Prop :=
  ∀ x, x ∈ l' ↔ (x = new ∧ old ∈ l) ∨ (x ≠ old ∧ x ∈ l)

def RenamedFrame (old new : String) (f f' : EFrame) : Prop :=
  f'.name = f.name ∧ RenamedList old new f.transmitters f'.transmitters ∧
  Forall2 (fun s s' => s'.name = s.name ∧ RenamedList old new s.receivers s'.receivers) f.sigs f'.sigs ∧
  UpToDate f'

/-- Renaming a name that is not in the ECU list does nothing (also when it is referenced). -/
theorem rename_unlisted_noop (m : EMat) (old new : String) (h : old ∉ m.ecus) : m.renameEcu old new = m :=
  renameEcu_of_not_mem h

theorem nodupFrame_renFrame {f : EFrame} (old new : String) (h : NodupFrame f) :
    NodupFrame (renFrame old new f) :=
  nodupFrame_updateReceiver (nodup_replaceRef h.1)
    (List.forall_mem_map.mpr fun s hs => nodup_replaceRef (h.2.2 s hs))

theorem renamedFrame_renFrame {f : EFrame} (old new : String) (h : NodupFrame f) :
    RenamedFrame old new f (renFrame old new f) :=
  ⟨rfl, fun _ => mem_replaceRef h.1,
    Forall2.of_map f.sigs fun s hs => ⟨rfl, fun _ => mem_replaceRef (h.2.2 s hs)⟩,
    upToDate_updateReceiver _⟩

/-- Renaming a listed ECU replaces every reference to it by the new name and changes nothing else;
every frame's receiver list is up to date afterwards. -/
theorem rename_refs (m : EMat) (old new : String) (hwf : NodupRefs m) (hold : old ∈ m.ecus) :
    let m' := m.renameEcu old new
    (∀ x, x ∈ m'.ecus ↔ (x = new) ∨ (x ≠ old ∧ x ∈ m.ecus)) ∧ m'.ecus.length = m.ecus.length ∧
    Forall2 (RenamedFrame old new) m.frames m'.frames ∧ m'.freeSigs = m.freeSigs := by
  rw [renameEcu_of_mem hold]
  refine ⟨fun x => mem_setFirst hwf.1 hold, length_setFirst _ _ _, ?_, rfl⟩
  exact Forall2.of_map m.frames (fun f hf => renamedFrame_renFrame old new (hwf.2 f hf))

def RemovedList (gone : String → Prop) (l l' : List String) : Prop := ∀ x, x ∈ l' ↔ x ∈ l ∧ ¬ gone x

def RemovedFrame (gone : String → Prop) (f f' : EFrame) : Prop :=
  f'.name = f.name ∧ RemovedList gone f.transmitters f'.transmitters ∧
  Forall2 (fun s s' => s'.name = s.name ∧ RemovedList gone s.receivers s'.receivers) f.sigs f'.sigs

theorem RemovedList.congr {g g' : String → Prop} {l l' : List String} (hg : ∀ x, g x ↔ g' x)
    (h : RemovedList g l l') : RemovedList g' l l' :=
  fun x => by rw [h x, hg x]

theorem RemovedList.comp {g₁ g₂ : String → Prop} {l l₁ l₂ : List String}
    (h₁ : RemovedList g₁ l l₁) (h₂ : RemovedList g₂ l₁ l₂) :
    RemovedList (fun x => g₁ x ∨ g₂ x) l l₂ := by
  intro x
  rw [h₂ x, h₁ x, not_or, and_assoc]

theorem RemovedFrame.congr {g g' : String → Prop} {f f' : EFrame} (hg : ∀ x, g x ↔ g' x)
    (h : RemovedFrame g f f') : RemovedFrame g' f f' := by
  obtain ⟨hname, htx, hsigs⟩ := h
  exact ⟨hname, htx.congr hg, hsigs.mono fun _ _ _ _ hs => ⟨hs.1, hs.2.congr hg⟩⟩

theorem RemovedFrame.comp {g₁ g₂ : String → Prop} {f f₁ f₂ : EFrame}
    (h₁ : RemovedFrame g₁ f f₁) (h₂ : RemovedFrame g₂ f₁ f₂) :
    RemovedFrame (fun x => g₁ x ∨ g₂ x) f f₂ := by
  obtain ⟨hname₁, htx₁, hsigs₁⟩ := h₁
  obtain ⟨hname₂, htx₂, hsigs₂⟩ := h₂
  exact ⟨hname₂.trans hname₁, htx₁.comp htx₂,
    hsigs₁.comp hsigs₂ fun _ _ _ _ hs hs' => ⟨hs'.1.trans hs.1, hs.2.comp hs'.2⟩⟩

theorem RemovedFrame.rfl' {g : String → Prop} (hg : ∀ x, ¬ g x) (f : EFrame) : RemovedFrame g f f :=
  ⟨rfl, fun x => by simp [hg x], Forall2.rfl' _ fun s _ => ⟨rfl, fun x => by simp [hg x]⟩⟩

theorem nodupFrame_delFrame {f : EFrame} (n : String) (h : NodupFrame f) :
    NodupFrame (delFrame n f) :=
  nodupFrame_updateReceiver (h.1.erase n) (List.forall_mem_map.mpr fun s hs => (h.2.2 s hs).erase n)

theorem removedFrame_delFrame {f : EFrame} (n : String) (h : NodupFrame f) :
    RemovedFrame (· = n) f (delFrame n f) := by
  have key {l : List String} (hl : l.Nodup) : RemovedList (· = n) l (l.erase n) :=
    fun _ => hl.mem_erase_iff.trans And.comm
  exact ⟨rfl, key h.1, Forall2.of_map f.sigs fun s hs => ⟨rfl, key (h.2.2 s hs)⟩⟩

theorem delOne_spec (m : EMat) (n : String) (hwf : NodupRefs m) :
    NodupRefs (m.delOne n) ∧
    Forall2 (RemovedFrame (fun x => x = n ∧ n ∈ m.ecus)) m.frames (m.delOne n).frames := by
  by_cases h : n ∈ m.ecus
  · rw [delOne_of_mem h]
    exact ⟨⟨hwf.1.erase n, List.forall_mem_map.mpr fun f hf => nodupFrame_delFrame n (hwf.2 f hf)⟩,
      Forall2.of_map m.frames fun f hf =>
        (removedFrame_delFrame n (hwf.2 f hf)).congr fun x => by simp [h]⟩
  · rw [delOne_of_not_mem h]
    exact ⟨hwf, Forall2.rfl' _ fun f _ => RemovedFrame.rfl' (fun x hx => h hx.2) f⟩

theorem foldl_delOne_spec (ns : List String) (m : EMat) (hwf : NodupRefs m) :
    NodupRefs (ns.foldl EMat.delOne m) ∧
    Forall2 (RemovedFrame (fun x => x ∈ ns ∧ x ∈ m.ecus)) m.frames (ns.foldl EMat.delOne m).frames := by
  induction ns generalizing m with
  | nil => exact ⟨hwf, Forall2.rfl' _ fun f _ => RemovedFrame.rfl' (fun x hx => by cases hx.1) f⟩
  | cons n ns ih =>
    obtain ⟨hwf₁, hfr₁⟩ := delOne_spec m n hwf
    obtain ⟨hwf₂, hfr₂⟩ := ih (m.delOne n) hwf₁
    refine ⟨hwf₂, ?_⟩
    rw [List.foldl_cons]
    refine hfr₁.comp hfr₂ fun f f₁ f₂ _ h₁ h₂ => (h₁.comp h₂).congr fun x => ?_
    rw [delOne_ecus, hwf.1.mem_erase_iff]
    by_cases hx : x = n <;> simp [hx]

/-- Deleting ECUs by glob pattern removes exactly the listed ECUs whose name matches, together with
every reference to them, and changes no other reference. -/
theorem del_glob_exactly_matching (m : EMat) (p : String) (hwf : NodupRefs m) :
    let m' := m.delEcuGlob p
    let gone := fun x => globMatch p x = true ∧ x ∈ m.ecus
    m'.ecus = m.ecus.filter (fun e => !globMatch p e) ∧
    Forall2 (RemovedFrame gone) m.frames m'.frames ∧ m'.freeSigs = m.freeSigs := by
  refine ⟨delEcuGlob_ecus m p, ?_, delEcuGlob_freeSigs m p⟩
  refine (foldl_delOne_spec _ m hwf).2.mono fun f f' _ _ h => h.congr fun x => ?_
  rw [List.mem_filter]
  exact ⟨fun h => ⟨h.1.2, h.1.1⟩, fun h => ⟨⟨h.2, h.1⟩, h.2⟩⟩

/-- Deleting one ECU (by instance) removes it and every reference to it. -/
theorem del_removes_all (m : EMat) (name : String) (hwf : NodupRefs m) (h : name ∈ m.ecus) :
    let m' := m.delEcu name
    m'.ecus = m.ecus.filter (· != name) ∧
    Forall2 (RemovedFrame (· = name)) m.frames m'.frames ∧ m'.freeSigs = m.freeSigs := by
  refine ⟨?_, ?_, delOne_freeSigs m name⟩
  · show (m.delOne name).ecus = _
    rw [delOne_ecus, hwf.1.erase_eq_filter]
  · exact (delOne_spec m name hwf).2.mono fun f f' _ _ hf => hf.congr fun x => by simp [h]

/-- Deleting an ECU that is not listed does nothing. -/
theorem del_unlisted_noop (m : EMat) (name : String) (h : name ∉ m.ecus) : m.delEcu name = m :=
  delOne_of_not_mem h

def ReferencedInFrames (m : EMat) (x : String) : Prop :=
  ∃ f ∈ m.frames, x ∈ f.transmitters ∨ ∃ s ∈ f.sigs, x ∈ s.receivers

/-- Updating the ECU list makes every referenced ECU exist exactly once: listed ECUs stay (as a
prefix, in order), exactly the referenced-but-unlisted names are appended, without duplicates;
senders and signal receivers are untouched and every frame's receiver list is up to date. -/
theorem update_makes_listed_once (m : EMat) (hnd : m.ecus.Nodup) :
    let m' := m.updateEcuList
    m'.ecus.Nodup ∧ m.ecus <+: m'.ecus ∧
    (∀ x, x ∈ m'.ecus ↔ x ∈ m.ecus ∨ ReferencedInFrames m x) ∧
    Forall2 (fun f f' => f'.name = f.name ∧ f'.transmitters = f.transmitters ∧ f'.sigs = f.sigs ∧ UpToDate f')
      m.frames m'.frames ∧ m'.freeSigs = m.freeSigs := by
  rw [updateEcuList_eq]
  refine ⟨adds_foldl_ecuStep.nodup _ hnd, prefix_foldl_ecuStep _ _, fun _ => adds_foldl_ecuStep.mem, ?_, rfl⟩
  exact Forall2.of_map m.frames fun f _ => ⟨rfl, rfl, rfl, upToDate_updateReceiver f⟩

def Referenced (m : EMat) (x : String) : Prop :=
  (∃ f ∈ m.frames, x ∈ f.transmitters ∨ x ∈ f.receivers ∨ ∃ s ∈ f.sigs, x ∈ s.receivers) ∨
  ∃ s ∈ m.freeSigs, x ∈ s.receivers

/-- ECU names are plain names: used as a glob pattern a name matches exactly itself -/
def PlainNames (m : EMat) : Prop := ∀ e ∈ m.ecus, ∀ n, globMatch e n = (e == n)

theorem mem_usedList {m : EMat} {x : String} : x ∈ usedList m ↔ Referenced m x := by
  simp only [usedList, List.mem_append, List.mem_flatMap, Referenced, and_or_left, exists_or, or_assoc]

def SameRefs (f f' : EFrame) : Prop :=
  f'.name = f.name ∧ f'.transmitters = f.transmitters ∧ f'.sigs = f.sigs ∧ (UpToDate f → UpToDate f')

def Unref (n : String) (fs : List EFrame) : Prop :=
  ∀ f ∈ fs, n ∉ f.transmitters ∧ ∀ s ∈ f.sigs, n ∉ s.receivers

theorem SameRefs.rfl' (f : EFrame) : SameRefs f f := ⟨rfl, rfl, rfl, id⟩

theorem SameRefs.trans {f f₁ f₂ : EFrame} (h₁ : SameRefs f f₁) (h₂ : SameRefs f₁ f₂) : SameRefs f f₂ := by
  obtain ⟨hname₁, htx₁, hsigs₁, hupto₁⟩ := h₁
  obtain ⟨hname₂, htx₂, hsigs₂, hupto₂⟩ := h₂
  exact ⟨hname₂.trans hname₁, htx₂.trans htx₁, hsigs₂.trans hsigs₁, fun h => hupto₂ (hupto₁ h)⟩

theorem Unref.transfer {n : String} {fs fs' : List EFrame} (h : Forall2 SameRefs fs fs')
    (hu : Unref n fs) : Unref n fs' := by
  intro f' hf'
  obtain ⟨f, hf, -, htx, hsigs, -⟩ := h.exists_left hf'
  rw [htx, hsigs]
  exact hu f hf

theorem delFrame_of_unref {n : String} {f : EFrame} (ht : n ∉ f.transmitters)
    (hs : ∀ s ∈ f.sigs, n ∉ s.receivers) : delFrame n f = f.updateReceiver := by
  have h2 : f.sigs.map (fun s => ({ s with receivers := s.receivers.erase n } : ESig)) = f.sigs := by
    refine (List.map_congr_left (g := id) fun s h => ?_).trans (List.map_id _)
    simp [List.erase_of_not_mem (hs s h)]
  unfold delFrame
  rw [List.erase_of_not_mem ht, h2]

theorem delOne_sameRefs (m : EMat) (n : String) (hu : Unref n m.frames) :
    Forall2 SameRefs m.frames (m.delOne n).frames := by
  by_cases h : n ∈ m.ecus
  · rw [delOne_of_mem h]
    refine Forall2.of_map m.frames fun f hf => ?_
    rw [delFrame_of_unref (hu f hf).1 (hu f hf).2]
    exact ⟨rfl, rfl, rfl, fun _ => upToDate_updateReceiver f⟩
  · rw [delOne_of_not_mem h]
    exact Forall2.rfl' _ fun f _ => SameRefs.rfl' f

theorem foldl_delOne_sameRefs (ns : List String) (m : EMat) (hu : ∀ n ∈ ns, Unref n m.frames) :
    Forall2 SameRefs m.frames (ns.foldl EMat.delOne m).frames :=
  List.foldlRecOn (motive := fun b => Forall2 SameRefs m.frames b.frames) ns EMat.delOne
    (Forall2.rfl' _ fun f _ => SameRefs.rfl' f) fun b hb n hn =>
    hb.comp (delOne_sameRefs b n ((hu n hn).transfer hb)) fun _ _ _ _ => SameRefs.trans

theorem delEcuGlob_sameRefs (m : EMat) (e : String) (hu : Unref e m.frames)
    (hplain : ∀ n, globMatch e n = (e == n)) :
    Forall2 SameRefs m.frames (m.delEcuGlob e).frames := by
  refine foldl_delOne_sameRefs _ m fun n hn => ?_
  have hne : e = n := by simpa [hplain n] using (List.mem_filter.mp hn).2
  exact hne ▸ hu

theorem foldl_delEcuGlob_sameRefs (us : List String) (m : EMat)
    (hu : ∀ e ∈ us, Unref e m.frames ∧ ∀ n, globMatch e n = (e == n)) :
    Forall2 SameRefs m.frames (us.foldl EMat.delEcuGlob m).frames :=
  List.foldlRecOn (motive := fun b => Forall2 SameRefs m.frames b.frames) us EMat.delEcuGlob
    (Forall2.rfl' _ fun f _ => SameRefs.rfl' f) fun b hb e he =>
    hb.comp (delEcuGlob_sameRefs b e ((hu e he).1.transfer hb) (hu e he).2) fun _ _ _ _ => SameRefs.trans

/-- Removing obsolete ECUs removes exactly the unreferenced ones (and, in a consistent matrix,
touches no reference). -/
theorem obsolete_removes_exactly_unreferenced (m : EMat) (hwf : Wf m) (hplain : PlainNames m) :
    let m' := m.deleteObsoleteEcus
    (∀ x, x ∈ m'.ecus ↔ x ∈ m.ecus ∧ Referenced m x) ∧
    Forall2 (fun f f' => f'.name = f.name ∧ f'.transmitters = f.transmitters ∧ f'.sigs = f.sigs ∧
        ∀ x, x ∈ f'.receivers ↔ x ∈ f.receivers) m.frames m'.frames := by
  rw [deleteObsoleteEcus_def]
  have hus : ∀ e, e ∈ m.ecus.filter (fun e => !(usedList m).contains e) ↔ e ∈ m.ecus ∧ ¬ Referenced m e := by
    simp [List.mem_filter, mem_usedList]
  refine ⟨fun x => ?_, ?_⟩
  · -- what is left is what was not selected
    rw [foldl_delEcuGlob_ecus _ m fun e he => hplain e ((hus e).mp he).1]
    simp only [List.mem_filter, Bool.not_eq_true', List.contains_eq_mem, decide_eq_false_iff_not,
      mem_usedList]
    exact ⟨fun ⟨hx, h⟩ => ⟨hx, Classical.not_not.mp fun hr => h ⟨hx, hr⟩⟩,
      fun ⟨hx, hr⟩ => ⟨hx, fun h => h.2 hr⟩⟩
  · -- the selected names are unreferenced, so every step leaves senders and signals alone
    have hunref : ∀ e ∈ m.ecus.filter (fun e => !(usedList m).contains e), Unref e m.frames := by
      intro e he f hf
      have hnot := ((hus e).mp he).2
      exact ⟨fun ht => hnot (Or.inl ⟨f, hf, Or.inl ht⟩),
        fun s hs hr => hnot (Or.inl ⟨f, hf, Or.inr (Or.inr ⟨s, hs, hr⟩)⟩)⟩
    have h := foldl_delEcuGlob_sameRefs _ m fun e he => ⟨hunref e he, hplain e ((hus e).mp he).1⟩
    refine h.mono fun f f' hf _ ⟨hname, htx, hsigs, hupto⟩ => ⟨hname, htx, hsigs, fun x => ?_⟩
    rw [hupto (hwf.2 f hf) x, hwf.2 f hf x, hsigs]

/-- side condition of an operation: a rename introduces a name that is not in use -/
def OpOk (m : EMat) : EOp → Prop
  | .rename _ new => new ∉ m.ecus ∧ ∀ f ∈ m.frames, new ∉ f.transmitters ∧ ∀ s ∈ f.sigs, new ∉ s.receivers
  | _ => True

theorem wf_delOne (m : EMat) (n : String) (hwf : Wf m) : Wf (m.delOne n) := by
  by_cases h : n ∈ m.ecus
  · rw [delOne_of_mem h]
    exact wf_mk (hwf.1.1.erase n) (List.forall_mem_map.mpr fun f hf =>
      ⟨nodupFrame_delFrame n (hwf.1.2 f hf), upToDate_updateReceiver _⟩)
  · rwa [delOne_of_not_mem h]

theorem wf_foldl_delOne (ns : List String) (m : EMat) (hwf : Wf m) : Wf (ns.foldl EMat.delOne m) :=
  List.foldlRecOn ns EMat.delOne hwf fun b hb n _ => wf_delOne b n hb

theorem wf_delEcuGlob (m : EMat) (p : String) (hwf : Wf m) : Wf (m.delEcuGlob p) :=
  wf_foldl_delOne _ m hwf

theorem wf_foldl_delEcuGlob (us : List String) (m : EMat) (hwf : Wf m) :
    Wf (us.foldl EMat.delEcuGlob m) :=
  List.foldlRecOn us EMat.delEcuGlob hwf fun b hb e _ => wf_delEcuGlob b e hb

/-- Every operation keeps the reference lists duplicate-free and every frame's receiver list equal
to the union of its signals' receivers. -/
theorem wf_preserved (m : EMat) (op : EOp) (hwf : Wf m) (hok : OpOk m op) : Wf (m.apply op) := by
  -- the shape of `add_signal_receiver` and `del_signal_receiver`: in the frames selected by `cf`
  -- the signals selected by `cs` get their receivers rewritten by `r`
  have recv (cf : EFrame → Bool) (cs : ESig → Bool) (r : List String → List String)
      (hr : ∀ l, l.Nodup → (r l).Nodup) :
      Wf { m with frames := m.frames.map fun f =>
        if (cf f) then ({ f with sigs := f.sigs.map fun s =>
          if (cs s) then { s with receivers := r s.receivers } else s } : EFrame).updateReceiver
        else f } := by
    refine wf_mk hwf.1.1 (List.forall_mem_map.mpr fun f hf => ?_)
    have hfr := wf_frame hwf hf
    split
    · refine ⟨nodupFrame_updateReceiver hfr.1.1 (List.forall_mem_map.mpr fun s hs => ?_),
        upToDate_updateReceiver _⟩
      split
      · exact hr _ (hfr.1.2.2 s hs)
      · exact hfr.1.2.2 s hs
    · exact hfr
  cases op with
  | rename old new =>
    show Wf (m.renameEcu old new)
    by_cases h : old ∈ m.ecus
    · rw [renameEcu_of_mem h]
      exact wf_mk (nodup_setFirst hwf.1.1 hok.1) (List.forall_mem_map.mpr fun f hf =>
        ⟨nodupFrame_renFrame old new (hwf.1.2 f hf), upToDate_updateReceiver _⟩)
    · rwa [renameEcu_of_not_mem h]
  | delGlob p => exact wf_delEcuGlob m p hwf
  | delInst n => exact wf_delOne m n hwf
  | update =>
    show Wf m.updateEcuList
    rw [updateEcuList_eq]
    exact wf_mk (adds_foldl_ecuStep.nodup _ hwf.1.1) (List.forall_mem_map.mpr fun f hf =>
      ⟨nodupFrame_updateReceiver (hwf.1.2 f hf).1 (hwf.1.2 f hf).2.2, upToDate_updateReceiver f⟩)
  | obsolete => exact wf_foldl_delEcuGlob _ m hwf
  | addRecv gf gs ecu =>
    exact recv (fun f => globMatch gf f.name) (fun s => globMatch gs s.name) (addIfAbsent · ecu)
      fun _ => nodup_addIfAbsent ecu
  | delRecv gf gs ecu =>
    exact recv (fun f => globMatch gf f.name) (fun s => globMatch gs s.name) (·.erase ecu)
      fun _ h => h.erase ecu

/-- the same for every sequence of operations -/
theorem wf_sequence (ops : List EOp) (m : EMat) (hwf : Wf m)
    (hok : ∀ k, (h : k < ops.length) → OpOk ((ops.take k).foldl EMat.apply m) ops[k]) :
    Wf (ops.foldl EMat.apply m) := by
  induction ops generalizing m with
  | nil => exact hwf
  | cons op ops ih =>
    rw [List.foldl_cons]
    refine ih _ (wf_preserved m op hwf (hok 0 (by simp))) fun k hk => ?_
    have := hok (k + 1) (by simpa using hk)
    simpa using this

/-! non-vacuity -/
def exMat : EMat :=
  { ecus := ["A", "B", "C"],
    frames := [{ name := "F", transmitters := ["A"], receivers := ["B", "A"],
                 sigs := [{ name := "s", receivers := ["B"] }, { name := "t", receivers := ["A", "B"] }] }] }
example : (exMat.renameEcu "A" "N").frames =
    [{ name := "F", transmitters := ["N"], receivers := ["B", "N"],
       sigs := [{ name := "s", receivers := ["B"] }, { name := "t", receivers := ["B", "N"] }] }] := by decide +kernel
example : (exMat.deleteObsoleteEcus).ecus = ["A", "B"] := by decide +kernel

end CanVerif.C11
