import CanVerif.Props.C05m
/-!
# C05 — the core round trip with attribute definitions, their defaults, the attributes of the ECUs and of the matrix

`writeCoreD` is `writeCoreE` with the `BA_DEF_` lines, the `BA_DEF_DEF_` lines, the `BA_ .. BU_` lines and the `BA_` lines
of the matrix between the comments and the value tables, as `dbc.dump` writes them (tied to the real file on every generated matrix,
op `core`, with the definitions and attributes of the matrix `dump` works on).  For every list of definitions with pairwise different
level and name that `Define` accepts, every list of defaults, every list of ECUs and of matrix attributes whose values are numbers where
their definition says so, and every list of frames inside the envelope `WFrame.wf`: reading what was written builds exactly
these definitions (each with the value of the last default line of its name), these ECUs with their comments and attribute
dictionaries, the attribute dictionary of the matrix, and these frames.  The theorem is the one of Props/C05m for frames and signals
without attributes.
-/
namespace CanVerif.C05k
open CanVerif CanVerif.Dbc CanVerif.Dbc.FileProofs

/-- the round trip with definitions, defaults and the attributes of the ECUs and of the matrix -/
theorem dbc_roundtrip_core_with_definitions (es : List WEcu) (hes : wfEcus es = true) (ds : List DefLine) (hds : wfDefs ds = true)
    (dds : List DefDefLine) (hdds : wfDefaults ds dds = true)
    (ga : List (Str × Str)) (hga : wfAttrs (expectDefs ds dds) .global .global ga = true)
    (hea : ∀ e ∈ es, wfAttrs (expectDefs ds dds) .ecu (.ecu e.name) e.attrs = true)
    (ps : List (WFrame × (Nat × Bool))) (hwf : ∀ p ∈ ps, p.1.wf p.2 = true) (hdist : ps.Pairwise fun p q => p.2 ≠ q.2) :
    (readFile (writeCoreD es ds dds ga (ps.map (·.1)))).ecus = es.map WEcu.expectA ∧
    (readFile (writeCoreD es ds dds ga (ps.map (·.1)))).defs = expectDefs ds dds ∧
    (readFile (writeCoreD es ds dds ga (ps.map (·.1)))).attrs = attrsOf ga ∧
    (readFile (writeCoreD es ds dds ga (ps.map (·.1)))).frames = ps.map (fun p => p.1.expect p.2) ∧
    (readFile (writeCoreD es ds dds ga (ps.map (·.1)))).pending = none := by
  have h := CanVerif.C05m.dbc_whole_matrix_roundtrip_without_line_error es hes ds hds dds hdds ga hga hea (ps.map fun p => (bareFrame p.1, p.2))
    (by intro q hq; obtain ⟨p, hp, rfl⟩ := List.mem_map.mp hq; exact (bareFrame_wf p.1 p.2).trans (hwf p hp))
    (by rw [List.pairwise_map]; exact hdist)
    (by intro q hq; obtain ⟨p, hp, rfl⟩ := List.mem_map.mp hq; exact bareFrame_wfA p.1 _)
  have e1 : (ps.map fun p => (bareFrame p.1, p.2)).map (·.1) = (ps.map (·.1)).map bareFrame := by
    rw [List.map_map, List.map_map]; rfl
  have e2 : (ps.map fun p => (bareFrame p.1, p.2)).map (fun p => p.1.expectA p.2) = ps.map (fun p => p.1.expect p.2) := by
    rw [List.map_map]; exact List.map_congr_left fun p _ => bareFrame_expectA p.1 p.2
  rw [e1, ← writeCoreD_bare, e2] at h
  obtain ⟨hecus, hdefs, hattrs, hframes, hpending, _⟩ := h
  exact ⟨hecus, hdefs, hattrs, hframes, hpending⟩

/-- `BA_DEF_` lines with pairwise different level and name become the definitions, in their order -/
theorem definitions_in_order (ds : List DefLine) (m : RMatrix) (hm : m.defs = [])
    (hnd : (ds.map fun d => (d.level, d.name)).Nodup) (hok : ∀ d ∈ ds, defineOk d.definition = true) :
    ((ds.map Item.adef).foldl applyItem m).defs = ds.map toRDef := by
  have := adef_fold ds [] m (by simp [hm]) (by simpa using hnd) hok
  rw [this]; simp

/-- `BA_DEF_DEF_` lines whose values are numbers where a definition of their name says so: every definition of that name takes the value
(environment variables aside); the last line wins -/
theorem defaults_last_wins (dds : List DefDefLine) (m : RMatrix) (hok : ∀ dd ∈ dds, defaultOk m dd = true) :
    ((dds.map fun d => Item.defdef d.name d.value).foldl applyItem m).defs =
      m.defs.map fun d =>
        { d with default := dds.foldl (fun acc dd => if d.name == dd.name && d.level != .env then some dd.value else acc) d.default } := by
  rw [defdef_fold dds m hok]

/-- C20 for this statement: a default that some level refuses changes nothing but the count of printed errors -/
theorem refused_default_only_counted (m : RMatrix) (name value : Str)
    (h : ([Level.signal, Level.frame, Level.ecu, Level.global].all fun l => numericOk m l name value) = false) :
    applyItem m (.defdef name value) = m.err := by
  have e1 : applyItem m (.defdef name value) = applyCore m (.defdef name value) := rfl
  rw [e1]
  simp only [applyCore, h, Bool.false_eq_true, if_false]

/-! ## non-vacuity -/

example : wfEcus exEcusA = true ∧ wfDefs exDefs = true ∧ wfDefaults exDefs exDefaults = true :=
  ⟨exEcusA_wf, exDefs_wf, exDefaults_wf⟩
example : wfAttrs (expectDefs exDefs exDefaults) .global .global exGlobal = true := exGlobal_wf
example : exEcusA.all (fun e => wfAttrs (expectDefs exDefs exDefaults) .ecu (.ecu e.name) e.attrs) = true :=
  List.all_eq_true.mpr exEcusA_attrs_wf
example : (readFile (writeCoreD exEcusA exDefs exDefaults exGlobal (CanVerif.C05h.exFrames.map (·.1)))).defs =
    [⟨.frame, "GenMsgCycleTime".toList, "INT 0 65535".toList, some "0".toList⟩, ⟨.ecu, "NodeKind".toList, "STRING".toList, some "plain".toList⟩,
     ⟨.global, "BusSpeed".toList, "FLOAT 0 1000".toList, none⟩, ⟨.signal, "NodeKind".toList, "ENUM \"a\",\"b\"".toList, some "plain".toList⟩] := by
  rw [(dbc_roundtrip_core_with_definitions _ exEcusA_wf _ exDefs_wf _ exDefaults_wf _ exGlobal_wf exEcusA_attrs_wf _
    CanVerif.C05h.exFrames_wf CanVerif.C05h.exFrames_distinct).2.1]; unfold exDefs exDefaults; lit_chars; decide +kernel
example : (readFile (writeCoreD exEcusA exDefs exDefaults exGlobal (CanVerif.C05h.exFrames.map (·.1)))).ecus = exEcusA.map WEcu.expectA :=
  (dbc_roundtrip_core_with_definitions _ exEcusA_wf _ exDefs_wf _ exDefaults_wf _ exGlobal_wf exEcusA_attrs_wf _
    CanVerif.C05h.exFrames_wf CanVerif.C05h.exFrames_distinct).1
example : (readFile (writeCoreD exEcusA exDefs exDefaults exGlobal (CanVerif.C05h.exFrames.map (·.1)))).attrs =
    [("BusSpeed".toList, "500.5".toList)] := by
  rw [(dbc_roundtrip_core_with_definitions _ exEcusA_wf _ exDefs_wf _ exDefaults_wf _ exGlobal_wf exEcusA_attrs_wf _
    CanVerif.C05h.exFrames_wf CanVerif.C05h.exFrames_distinct).2.2.1]; unfold exGlobal; lit_chars; decide +kernel
/-- a number is demanded where the definition says so: the same file with a text for `BusSpeed` is refused at that line -/
example : (readFile (writeCoreD exEcusA exDefs exDefaults [("BusSpeed".toList, "\"fast\"".toList)] (CanVerif.C05h.exFrames.map (·.1)))).errors = 1 := by
  unfold exEcusA exDefs exDefaults CanVerif.C05h.exFrames CanVerif.C05h.exSg; lit_chars; decide +kernel

/-- a default that is no number for a numeric definition is refused at that line and leaves the earlier default (C20: the line is skipped) -/
example : (readFile ["BA_DEF_ BO_ \"Cyc\" INT 0 100;".toList, "BA_DEF_DEF_ \"Cyc\" 5;".toList, "BA_DEF_DEF_ \"Cyc\" abc;".toList]).errors = 1 ∧
    (readFile ["BA_DEF_ BO_ \"Cyc\" INT 0 100;".toList, "BA_DEF_DEF_ \"Cyc\" 5;".toList, "BA_DEF_DEF_ \"Cyc\" abc;".toList]).defs.map (·.default) =
      [some "5".toList] := by lit_chars; decide +kernel

end CanVerif.C05k
