import CanVerif.Model.Num
import CanVerif.Proofs.Num
import CanVerif.Proofs.StrLit
/-!
# Number renderings round-trip (shared by C05, C07, C15)

`Decimal(str(d)) == d` exactly (sign, coefficient, exponent) for every decimal; `format_float`
(DBC, SYM) keeps the value (it only strips a trailing `.0` and pads the exponent); different
renderings of one number parse to equal values.
-/
namespace CanVerif.Num
open CanVerif

/-- the digit string of a natural number parses back to it -/
theorem digitsToNat_natDigits (n : Nat) : digitsToNat (natDigits n) = some n :=
  digitsToNat_natDigits' n

/-- `natDigits` yields only digit characters, never empty -/
theorem natDigits_digits (n : Nat) : natDigits n ≠ [] ∧ ∀ c ∈ natDigits n, (digitVal c).isSome = true :=
  ⟨natDigits_ne_nil n, natDigits_allDig n⟩

/-- `Decimal(str(d)) = d`: sign, coefficient and exponent all come back, for every decimal
(plain notation, leading zeros after the point, scientific notation with positive or negative
exponent, zero and negative zero). -/
theorem strToDec_decToStr (d : Dec) : strToDec (decToStr d) = some d :=
  strToDec_decToStr' d

/-- `format_float` keeps the number: the parse result is the decimal itself, or - when the rendering
ended in `.0` - the same value with that zero removed. -/
theorem strToDec_formatFloat (d : Dec) :
    strToDec (formatFloat d) = some d ∨
    (d.exp = -1 ∧ d.coeff % 10 = 0 ∧ strToDec (formatFloat d) = some ⟨d.neg, d.coeff / 10, 0⟩) :=
  strToDec_formatFloat' d

/-- equivalent renderings of one number parse to equal values (C15): 1E-3, 0.001, 1e-03, +0.0010 -/
theorem renderings_equal :
    strToDec "1E-3".toList = some ⟨false, 1, -3⟩ ∧ strToDec "0.001".toList = some ⟨false, 1, -3⟩ ∧
    strToDec "1e-03".toList = some ⟨false, 1, -3⟩ ∧ strToDec "+0.0010".toList = some ⟨false, 10, -4⟩ ∧
    strToDec "-12.5".toList = some ⟨true, 125, -1⟩ ∧ strToDec "1E+003".toList = some ⟨false, 1, 3⟩ ∧
    strToDec "abc".toList = none ∧ strToDec "".toList = none ∧ strToDec "1.5E".toList = none := by
  lit_chars
  decide +kernel

/-! non-vacuity -/
example : decToStr ⟨false, 123456789012, -12⟩ = "0.123456789012".toList := by lit_chars; decide +kernel
example : formatFloat ⟨true, 1, -7⟩ = "-1E-007".toList := by lit_chars; decide +kernel
example : formatFloat ⟨false, 20, -1⟩ = "2".toList := by decide +kernel

end CanVerif.Num
