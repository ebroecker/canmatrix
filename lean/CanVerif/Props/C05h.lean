import CanVerif.Props.C05j
/-!
# C05 — the DBC round trip as a theorem about the whole reader: frames, signals, senders, comments

`writeCore` is the part of `dbc.dump` that writes the frame section, the `BO_TX_BU_` lines, the comments of the frames and the comments
of the signals, the `VAL_`, `SIG_VALTYPE_`, `SIG_GROUP_` and `SG_MUL_VAL_` lines (in that order, as the writer does); `readFile` is the line loop of `dbc.load` (Model/DbcFile.lean, tied to the real reader
on every generated file).  For every list of frames - unbounded in the number of frames, signals, senders and comment lines - inside the
envelope `WFrame.wf` (well-formed lines, numbers that denote pairwise different identifiers, pairwise different senders, pairwise
different signal names within a frame, comments the statement can carry), reading what was written builds exactly these frames.
The attribute statements, the ECUs, the value tables and the file line for line are Props/C05j-o, the post-processing Props/C05p-r.
The theorem is the one of Props/C05j for a file without ECUs.
-/
namespace CanVerif.C05h
open CanVerif CanVerif.Dbc CanVerif.Dbc.FileProofs

/-- the core round trip -/
theorem dbc_roundtrip_core (ps : List (WFrame × (Nat × Bool))) (hwf : ∀ p ∈ ps, p.1.wf p.2 = true)
    (hdist : ps.Pairwise fun p q => p.2 ≠ q.2) :
    (readFile (writeCore (ps.map (·.1)))).frames = ps.map (fun p => p.1.expect p.2) ∧
    (readFile (writeCore (ps.map (·.1)))).pending = none := by
  -- with no ECUs the `BU_:` line lists none
  have e : readFile (writeCoreE [] (ps.map (·.1))) = readFile (writeCore (ps.map (·.1))) := by
    unfold readFile writeCoreE writeCore
    rw [List.foldl_append, List.foldl_append, bu_line [] rfl]
    simp only [List.map_nil, ecuCmStmts, List.filterMap_nil, List.append_nil, List.foldl_append]
  rw [← e]
  exact (CanVerif.C05j.dbc_roundtrip_core_with_ecus [] rfl ps hwf hdist).2

/-- a frame of the file only sees the statements written for it: one section of the file, folded over any frame -/
theorem section_reaches_only_its_frame (sec : WFrame → List Item)
    (hsec : ∀ f it, it ∈ sec f → ∃ g, itemFrameUpd it = some (f.bo.id, g))
    (ps : List (WFrame × (Nat × Bool))) (hnum : ∀ p ∈ ps, keyOfCompound p.1.bo.id = some p.2)
    (hdist : ps.Pairwise fun p q => p.2 ≠ q.2) (p : WFrame × (Nat × Bool)) (hp : p ∈ ps) (a : RFrame) (ha : a.key = p.2) :
    (ps.flatMap fun q => sec q.1).foldl (fun acc it => itemUpd it acc) a = (sec p.1).foldl (fun acc it => itemUpd it acc) a :=
  sec_fold itemUpd_other itemUpd_key sec hsec ps hnum hdist p hp a ha

/-- the frames after any sequence of statements about frames and signals (senders, comments, value tables): every frame goes through the
updates of the statements that name its identifier, in their order -/
theorem frames_after_statements (its : List Item) (m : RMatrix) (hu : KeysUnique m) (hall : ∀ it ∈ its, (itemFrameUpd it).isSome = true) :
    (its.foldl applyItem m).frames = m.frames.map fun f => its.foldl (fun acc it => itemUpd it acc) f :=
  frames_after_items its m hu fun it hit => Or.inl (hall it hit)

/-! ## non-vacuity: a concrete file inside the envelope, written and read back by the kernel -/

example : exFrames.all (fun p => p.1.wf p.2) = true := List.all_eq_true.mpr exFrames_wf
example : (writeCore (exFrames.map (·.1))).map String.ofList =
    ["BO_ 291 Engine: 8 ECU_A", " SG_ Speed : 0|8@1+ (0.5,0) [0|100] \"km/h\" ECU_B", " SG_ Rpm : 8|32@1+ (0.5,0) [0|100] \"km/h\" ECU_B", "",
     "BO_ 2147483939 EngineExt: 8 ECU_A", " SG_ Speed : 0|8@1+ (0.5,0) [0|100] \"km/h\" ECU_B", "",
     "BO_TX_BU_ 291 : ECU_A,Gateway;", "CM_ BO_ 291  \"engine data\";", "CM_ SG_ 291 Speed \"vehicle speed", "second line\";",
     "VAL_ 291 Speed 255 \"invalid\" 0 \"stand \\\"still\\\"\";", "SIG_VALTYPE_ 291 Rpm : 1;", "SIG_GROUP_ 291 Grp 1 : Rpm Speed;"] := by
  rw [← List.map_inj_right (f := String.toList) (fun _ _ => String.toList_injective)]
  simp only [List.map_map, Function.comp_def, String.toList_ofList, List.map_id']
  unfold exFrames exSg; lit_chars; decide +kernel
example : (readFile (writeCore (exFrames.map (·.1)))).frames = exFrames.map (fun p => p.1.expect p.2) :=
  (dbc_roundtrip_core exFrames exFrames_wf exFrames_distinct).1
/-- without pairwise different identifiers the statement does not hold: two frames under one number, the comment of the first goes to the
second (the last frame registered under an identifier is the one the reader finds) -/
example : ((readFile (writeCore [{ bo := ⟨5, "A".toList, 8, "E1".toList⟩, sigs := [], comment := some "for A".toList },
    { bo := ⟨5, "B".toList, 8, "E1".toList⟩, sigs := [] }])).frames.map fun f => (f.name, f.comment)) =
    [("A".toList, none), ("B".toList, some "for A".toList)] := by decide +kernel

end CanVerif.C05h
