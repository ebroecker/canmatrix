import CanVerif.Model.DbcPrep
import CanVerif.Props.C05i
import CanVerif.Proofs.DbcTablesRT
/-!
# C05 — a name longer than 32 characters: what the writer does to it and what the reader makes of that

`prepLong` is the writer's step (Model/DbcPrep.lean, compared with the matrix `dump` works on), `writtenValue` the quoting of STRING
values, `attrsOf` the dictionary the reader's `BA_` statements build (Props/C05k-l), `longName` the reader's post-processing
(Props/C05i, C05p).  For every name longer than 32 characters and every attribute dictionary with pairwise different keys: the name the
reader ends with is the original name, the short name is its first 32 characters, and the carrier attribute is gone again.
Likewise through writer and post-processing: text attributes (`string_attribute_roundtrip`) and cycle times (`cycle_time_roundtrip`).
-/
namespace CanVerif.C05q
open CanVerif CanVerif.Dbc

theorem assocSet_keys_nodup (l : List (Str × Str)) (k v : Str) (h : (l.map (·.1)).Nodup) : ((assocSet l k v).map (·.1)).Nodup := by
  rw [FileProofs.assocSet_keys]
  split
  · exact h
  · rename_i hk
    refine List.nodup_append.mpr ⟨h, by simp, fun a ha b hb e => hk ?_⟩
    rw [← List.mem_singleton.mp hb, ← e]
    exact ha

theorem lookup_assocSet (l : List (Str × Str)) (k v : Str) : lookupAttr (assocSet l k v) k = some v := by
  unfold lookupAttr
  rw [FileProofs.find_assocSet]
  rfl

/-- the dictionary the `BA_` statements build from pairs with pairwise different keys is the list of pairs, values stripped -/
theorem attrsOf_nodup (kvs : List (Str × Str)) (h : (kvs.map (·.1)).Nodup) : attrsOf kvs = kvs.map fun kv => (kv.1, stripWs kv.2) := by
  have := FileProofs.assocSet_fold_gen (kvs.map fun kv => (kv.1, stripWs kv.2)) [] (by simpa [List.map_map, Function.comp_def] using h)
  rw [List.foldl_map] at this
  simpa [attrsOf] using this

theorem stripWs_quoted (n : Str) : stripWs ('"' :: n ++ ['"']) = '"' :: n ++ ['"'] :=
  stripWs_cons_snoc '"' '"' n (by decide) (by decide)

/-- **a long name goes out and comes back**: shortened with its carrier attribute by the writer, written in quotes, read into the
attribute dictionary, restored by the post-processing -/
theorem long_name_roundtrip (attr : String) (name : Str) (attrs : List (Str × Str)) (isString : Str → Bool)
    (hlen : name.length > 32) (hnd : (attrs.map (·.1)).Nodup) (hstr : isString attr.toList = true) :
    let p := prepLong attr name attrs
    let read := attrsOf (p.2.map fun kv => (kv.1, writtenValue (isString kv.1) kv.2))
    p.1 = name.take 32 ∧ (longName attr p.1 read).1 = name ∧ lookupAttr (longName attr p.1 read).2 attr.toList = none := by
  simp only [prepLong, hlen, if_true]
  have hnd' := assocSet_keys_nodup attrs attr.toList name hnd
  have hkeys : ((assocSet attrs attr.toList name).map fun kv => (kv.1, writtenValue (isString kv.1) kv.2)).map (·.1) =
      (assocSet attrs attr.toList name).map (·.1) := by rw [List.map_map]; rfl
  rw [attrsOf_nodup _ (by rw [hkeys]; exact hnd')]
  have hlook : lookupAttr (((assocSet attrs attr.toList name).map fun kv => (kv.1, writtenValue (isString kv.1) kv.2)).map
      fun kv => (kv.1, stripWs kv.2)) attr.toList = some ('"' :: name ++ ['"']) := by
    unfold lookupAttr
    rw [List.map_map, List.find?_map]
    -- the two maps keep the keys, so the search is the search in the written dictionary
    rw [show ((fun kv : Str × Str => kv.1 == attr.toList) ∘ ((fun kv : Str × Str => (kv.1, stripWs kv.2)) ∘
      fun kv : Str × Str => (kv.1, writtenValue (isString kv.1) kv.2))) = fun kv => kv.1 == attr.toList from rfl, FileProofs.find_assocSet]
    simp only [Option.map_some, Function.comp_apply, hstr, writtenValue, if_true, stripWs_quoted]
  exact ⟨trivial, (C05i.long_name_restored attr _ _ name hlook).1, (C05i.long_name_restored attr _ _ name hlook).2⟩

/-- **a text attribute goes out and comes back**: written in quotes because its definition is STRING, read with its quotes into the
dictionary, stripped of them by the post-processing (for every text, also one with blanks at its ends or quotes inside) -/
theorem string_attribute_roundtrip (defs : List RDef) (lvl : Level) (k v : Str)
    (hdef : defs.any (fun d => d.level == lvl && d.name == k && defType d.definition == "STRING".toList) = true) :
    stripStrings defs lvl (attrsOf [(k, writtenValue true v)]) = [(k, v)] := by
  simp only [attrsOf, List.foldl_cons, List.foldl_nil, assocSet, writtenValue, if_true, stripWs_quoted, stripStrings, List.map_cons, List.map_nil,
    hdef]
  simp [stripQuotes]

/-- a value of an attribute that is not defined as STRING on that level is left as it was read -/
theorem other_attribute_untouched (defs : List RDef) (lvl : Level) (k v : Str)
    (hdef : defs.any (fun d => d.level == lvl && d.name == k && defType d.definition == "STRING".toList) = false) :
    stripStrings defs lvl [(k, v)] = [(k, v)] := by
  simp only [stripStrings, List.map_cons, List.map_nil, hdef]
  rfl

/-- the text of a natural number is read as that number -/
theorem strToDec_nat (n : Nat) : strToDec (natDigits n) = some ⟨false, n, 0⟩ := by
  have h := Num.strToDec_shape false (natDigits n) [] [] n 0 (Num.natDigits_allDig n) (by intro c hc; simp at hc) (Num.natDigits_ne_nil n)
    (by simpa using Num.digitsToNat_natDigits' n) (Or.inl ⟨rfl, rfl⟩)
  simpa [Num.signStr, Num.dotStr] using h

theorem stripWs_natDigits (n : Nat) : stripWs (natDigits n) = natDigits n := FileProofs.stripWs_digits n

/-- **cycle times go out and come back**: the writer prints the number, the reader's post-processing converts the text of the attribute -
`int(float(..))` for a frame, `int(..)` for a signal - into the same number -/
theorem cycle_time_roundtrip (n : Nat) (attrs : List (Str × Str)) :
    frameCycle (assocSet attrs "GenMsgCycleTime".toList (natDigits n)) = n ∧
    sigCycle (assocSet attrs "GenSigCycleTime".toList (natDigits n)) = n := by
  constructor
  · unfold frameCycle
    rw [lookup_assocSet]
    simp [floatTextToInt, stripWs_natDigits, strToDec_nat]
  · unfold sigCycle
    rw [lookup_assocSet]
    simp [FileProofs.pyIntKey_natDigits]

/-- a cycle time attribute that is no number is ignored -/
example : frameCycle [("GenMsgCycleTime".toList, "abc".toList)] = 0 ∧ sigCycle [("GenSigCycleTime".toList, "2.5".toList)] = 0 ∧
    frameCycle [("GenMsgCycleTime".toList, "1e3".toList)] = 1000 ∧ frameCycle [("GenMsgCycleTime".toList, "12.9".toList)] = 12 := by decide +kernel

/-- a name of at most 32 characters is left alone by the writer -/
theorem short_name_untouched (attr : String) (name : Str) (attrs : List (Str × Str)) (h : name.length ≤ 32) :
    prepLong attr name attrs = (name, attrs) := by
  rw [prepLong, if_neg (Nat.not_lt.mpr h)]

example : prepLong "SystemMessageLongSymbol" "A_frame_name_that_is_longer_than_32_characters".toList [("Note".toList, "x".toList)] =
    ("A_frame_name_that_is_longer_than".toList, [("Note".toList, "x".toList), ("SystemMessageLongSymbol".toList, "A_frame_name_that_is_longer_than_32_characters".toList)]) := by
  lit_chars; decide +kernel

end CanVerif.C05q
