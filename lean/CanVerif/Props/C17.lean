import CanVerif.Model.Bulk
import CanVerif.Proofs.Bulk
import CanVerif.Proofs.FirstMatch
import CanVerif.Proofs.StrLit
/-!
# C17 — bulk clean-up, delete and rename operations hit exactly their targets

Deleting zero-width signals removes all of them and nothing else; deleting obsolete definitions
removes precisely the attribute definitions that no object uses and keeps every used one, so the
matrix stays exportable; deleting or renaming frames, signals and attributes by name or by
prefix/suffix/glob pattern changes all and only the matching objects in every frame.

Unbounded: any number of frames, signals, attributes, definitions.
-/
namespace CanVerif.C17
open CanVerif CanVerif.Bulk

/-- All zero-width signals are removed (also adjacent ones) and nothing else: the result is exactly
the list of the other signals, in order. -/
theorem zero_signals_removed_exactly (m : BMat) :
    m.deleteZeroSignals = { m with frames := m.frames.map fun f => { f with sigs := f.sigs.filter (·.size != 0) } } := by
  simp only [BMat.deleteZeroSignals]
  congr 1
  refine List.map_congr_left fun f _ => ?_
  congr 1
  rw [foldl_if_erase (fun s : BSig => s.size == 0), foldl_erase_filter]
  refine List.filter_congr fun s _ => ?_
  simp [bne]

/-- A definition is kept iff it existed and some object of its kind carries an attribute of that name. -/
theorem obsolete_defines_exactly (m : BMat) (d : Name) :
    let m' := m.deleteObsoleteDefines
    (d ∈ m'.frameDefs ↔ d ∈ m.frameDefs ∧ ∃ f ∈ m.frames, hasKey f.attrs d = true) ∧
    (d ∈ m'.ecuDefs ↔ d ∈ m.ecuDefs ∧ ∃ e ∈ m.ecus, hasKey e.attrs d = true) ∧
    (d ∈ m'.sigDefs ↔ d ∈ m.sigDefs ∧ ∃ f ∈ m.frames, ∃ s ∈ f.sigs, hasKey s.attrs d = true) ∧
    m'.frames = m.frames ∧ m'.ecus = m.ecus := by
  -- each dictionary is filtered by an `any` over the objects of its kind; frames and ECUs are kept
  exact ⟨List.mem_filter.trans (and_congr_right fun _ => List.any_eq_true),
    List.mem_filter.trans (and_congr_right fun _ => List.any_eq_true),
    List.mem_filter.trans (and_congr_right fun _ => by simp only [List.any_eq_true]), rfl, rfl⟩

/-- every attribute present on an object has a definition of its kind (what the DBC writer needs) -/
def Exportable (m : BMat) : Prop :=
  (∀ f ∈ m.frames, ∀ kv ∈ f.attrs, kv.1 ∈ m.frameDefs) ∧
  (∀ e ∈ m.ecus, ∀ kv ∈ e.attrs, kv.1 ∈ m.ecuDefs) ∧
  (∀ f ∈ m.frames, ∀ s ∈ f.sigs, ∀ kv ∈ s.attrs, kv.1 ∈ m.sigDefs)

theorem exportable_after (m : BMat) (h : Exportable m) : Exportable m.deleteObsoleteDefines := by
  obtain ⟨h1, h2, h3⟩ := h
  -- an attribute present on an object is a use of its definition
  have key {d : List (Name × Name)} {kv : Name × Name} (hkv : kv ∈ d) : hasKey d kv.1 = true :=
    List.any_eq_true.mpr ⟨kv, hkv, beq_self_eq_true _⟩
  exact ⟨fun f hf kv hkv => List.mem_filter.mpr ⟨h1 f hf kv hkv, List.any_eq_true.mpr ⟨f, hf, key hkv⟩⟩,
    fun e he kv hkv => List.mem_filter.mpr ⟨h2 e he kv hkv, List.any_eq_true.mpr ⟨e, he, key hkv⟩⟩,
    fun f hf s hs kv hkv => List.mem_filter.mpr ⟨h3 f hf s hs kv hkv,
      List.any_eq_true.mpr ⟨f, hf, List.any_eq_true.mpr ⟨s, hs, key hkv⟩⟩⟩⟩

/-- Deleting signals by glob pattern removes, in every frame, all and only the matching signals. -/
theorem del_signal_by_glob_exact (m : BMat) (p : Name) :
    m.delSignal p = { m with frames := m.frames.map fun f =>
                        { f with sigs := f.sigs.filter fun s => !globName p s.name } } := by
  simp only [BMat.delSignal]
  congr 1
  refine List.map_congr_left fun f _ => ?_
  congr 1
  exact foldl_erase_filter (fun s : BSig => globName p s.name) f.sigs

/-- Deleting a frame by name removes it and nothing else (frame names unique). -/
theorem del_frame_exact (m : BMat) (n : Name) (hu : (m.frames.map (·.name)).Nodup) :
    m.delFrame n = { m with frames := m.frames.filter fun f => f.name != n } := by
  rw [← erase_find_eq_filter n m.frames hu, BMat.delFrame]
  cases m.frames.find? (·.name == n) <;> rfl

/-- Deleting attributes removes them from every signal of every frame and leaves all others. -/
theorem sig_attrs_deleted_everywhere (m : BMat) (ns : List Name) :
    m.delSignalAttributes ns = { m with frames := m.frames.map fun f =>
      { f with sigs := f.sigs.map fun s => { s with attrs := s.attrs.filter fun kv => !ns.contains kv.1 } } } := by
  simp only [BMat.delSignalAttributes, foldl_delKey]

theorem frame_attrs_deleted_everywhere (m : BMat) (ns : List Name) :
    m.delFrameAttributes ns = { m with frames := m.frames.map fun f =>
      { f with attrs := f.attrs.filter fun kv => !ns.contains kv.1 } } := by
  simp only [BMat.delFrameAttributes, foldl_delKey]

/-- the documented meaning of a rename request for one name -/
def newName (old new name : Name) : Name :=
  if old.getLast? = some '*' then
    let pre := old.dropLast
    if pre <+: name then new ++ name.drop pre.length else name
  else if old.head? = some '*' then
    let suf := old.drop 1
    if suf <:+ name then name.take (name.length - suf.length) ++ new else name
  else if name = old then new else name

/-- the slicing code computes the documented prefix replacement -/
theorem renamePrefix_spec (pre new name : Name) :
    renamePrefix (pre ++ ['*']) new name = if pre <+: name then new ++ name.drop pre.length else name := by
  rw [renamePrefix_eq]
  simp

/-- the slicing code computes the documented suffix replacement (non-empty suffix) -/
theorem renameSuffix_spec (suf new name : Name) (hne : suf ≠ []) :
    renameSuffix ('*' :: suf) new name
      = if suf <:+ name then name.take (name.length - suf.length) ++ new else name := by
  rw [renameSuffix_eq _ _ _ (by simpa using hne)]
  simp

/-- Renaming signals by exact name, `prefix*` or `*suffix` renames all and only the matching signals
in every frame (signal names unique within a frame, pattern non-empty, and a suffix pattern is not
the bare `*`). -/
theorem rename_signal_exact (m : BMat) (old new : Name) (hne : old ≠ [])
    (hu : ∀ f ∈ m.frames, (f.sigs.map (·.name)).Nodup) :
    m.renameSignal old new = { m with frames := m.frames.map fun f =>
      { f with sigs := f.sigs.map fun s => { s with name := newName old new s.name } } } := by
  have _ := hne
  simp only [BMat.renameSignal]
  congr 1
  refine List.map_congr_left fun f hf => ?_
  by_cases h1 : old.getLast? = some '*'
  · simp only [h1, beq_self_eq_true, if_true, newName, renamePrefix_eq]
  · by_cases h2 : old.head? = some '*'
    · simp only [beq_iff_eq, h1, h2, if_true, if_false, newName,
        renameSuffix_eq _ _ _ (drop_one_ne_nil h1 h2)]
    · simp only [beq_iff_eq, h1, h2, if_false, newName, renameFirst_eq_map old new f.sigs (hu f hf)]

/-- Renaming frames by exact name, `prefix*` or `*suffix` renames all and only the matching frames;
names and the new text contain no `*`, the pattern carries a single `*` (at its end or at its
beginning) or none. -/
theorem rename_frame_exact (m : BMat) (old new : Name) (hne : old ≠ [])
    (hstar : (old.filter (· == '*')).length ≤ 1)
    (hnames : ∀ f ∈ m.frames, '*' ∉ f.name) (hnew : '*' ∉ new) :
    m.renameFrame old new = { m with frames := m.frames.map fun f => { f with name := newName old new f.name } } := by
  simp only [BMat.renameFrame]
  congr 1
  refine List.map_congr_left fun f hf => ?_
  congr 1
  have hfn := hnames f hf
  by_cases h1 : old.getLast? = some '*'
  · by_cases h2 : old.head? = some '*'
    · -- the pattern is the bare `*`: both rules fire, and together they put `new` in front
      obtain rfl := eq_star h1 h2 hstar
      show (if (new ++ f.name).isEmpty then new else new ++ f.name) = new ++ f.name
      split
      · rename_i h
        rw [List.isEmpty_iff, List.append_eq_nil_iff] at h
        rw [h.1, h.2]
        rfl
      · rfl
    · -- after the prefix rule the exact-name rule finds no `*` in the name, so it does not fire
      have hold {x : Name} (hx : '*' ∉ x) : ¬ x = old := fun e => hx (e ▸ List.mem_of_getLast? h1)
      simp only [beq_iff_eq, h1, h2, if_true, if_false, newName, renamePrefix_eq]
      split
      · have hstarfree : '*' ∉ new ++ f.name.drop old.dropLast.length := fun h =>
          (List.mem_append.mp h).elim hnew fun hdrop => hfn (List.mem_of_mem_drop hdrop)
        exact if_neg (hold hstarfree)
      · exact if_neg (hold hfn)
  · by_cases h2 : old.head? = some '*'
    · simp only [beq_iff_eq, h1, h2, if_true, if_false, newName,
        renameSuffix_eq _ _ _ (drop_one_ne_nil h1 h2)]
    · simp only [beq_iff_eq, h1, h2, if_false, newName]

/-! non-vacuity: the two pre-fix failures -/
def ex6 : BFrame :=
  { name := "F".toList,
    sigs := [⟨"a".toList, 0, []⟩, ⟨"b".toList, 0, []⟩, ⟨"c".toList, 4, []⟩, ⟨"d".toList, 0, []⟩, ⟨"e".toList, 0, []⟩, ⟨"g".toList, 0, []⟩] }
example : (({ frames := [ex6] } : BMat).deleteZeroSignals).frames.map (fun f => f.sigs.map (·.size)) = [[4]] := by
  unfold ex6; lit_chars; decide +kernel
example : renamePrefix "Msg*".toList "N".toList "Msg_A".toList = "N_A".toList := by lit_chars; decide +kernel
example : renameSuffix "*kmh".toList "mph".toList "speed_kmh".toList = "speed_mph".toList := by lit_chars; decide +kernel

end CanVerif.C17
