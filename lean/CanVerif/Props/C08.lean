import CanVerif.Model.StartBit
import CanVerif.Spec.Bits
import CanVerif.Proofs.Bits
/-!
# C08 — all start-bit notations denote the same physical bits

Unbounded: any width ≥ 1, any position ≥ 0, every value
of the two switches for setting and for querying.
-/
namespace CanVerif.C08
open CanVerif

theorem flipI_ofNat (n : Nat) : flipI (n : Int) = (flipN n : Int) := by
  unfold flipI flipN; omega

theorem flipI_nonneg {s : Int} (h : 0 ≤ s) : 0 ≤ flipI s := by unfold flipI; omega

/-- Querying in the notation used for setting returns the number that was set. -/
theorem get_set_same_notation (little : Bool) (size start : Int) (bn : Option Bool) (sl : Bool)
    (hs : 0 ≤ start) (i : Int) (h : setStartbit little size start bn sl = some i) :
    getStartbit little size i bn sl = start := by
  -- querying first undoes the shift by `size - 1`, then the renumbering `flipI`, an involution on `Int`
  unfold setStartbit getStartbit flipI at *
  grind

/-- The stored position is never negative (a position before bit 0 is rejected). -/
theorem set_stores_nonneg (little : Bool) (size start : Int) (bn : Option Bool) (sl : Bool)
    (i : Int) (h : setStartbit little size start bn sl = some i) : 0 ≤ i := by
  unfold setStartbit at h
  grind

/-- Rejection happens exactly when the internal position would lie before bit 0:
for a Motorola signal positioned by its least significant bit, `size-1` bits before the
(renumbered) position; otherwise never for a non-negative position. -/
theorem set_rejects_iff (little : Bool) (size start : Int) (bn : Option Bool) (sl : Bool)
    (hs : 0 ≤ start) :
    setStartbit little size start bn sl = none ↔
      (sl = true ∧ little = false ∧
        (match bn with
          | some b => if b != little then flipI start else start
          | none => start) + 1 - size < 0) := by
  unfold setStartbit flipI
  -- byte order × `start_little` × (no numbering, or one that is or is not the byte order's)
  cases little <;> cases sl <;> cases bn <;> simp <;> (try split) <;> omega

/-- Querying in *any* notation returns the number, in the requested numbering, of the physical bit
the notation refers to in the sawtooth byte layout (`specGetStartbit`). -/
theorem get_other_notation (little : Bool) (size internal : Nat) (bn : Option Bool) (sl : Bool)
    (hz : 1 ≤ size) :
    getStartbit little (size : Int) (internal : Int) bn sl
      = (specGetStartbit little size internal bn sl : Int) := by
  unfold getStartbit specGetStartbit anchorPhys numberingOf expressIn
  have e1 : ((internal : Int) + (size : Int) - 1) = ((internal + size - 1 : Nat) : Int) := by omega
  have e2 : internal + (size - 1) = internal + size - 1 := by omega
  -- twelve notations: byte order × `start_little` × numbering (none, LSB0, MSB0)
  cases little <;> cases sl <;> rcases bn with _ | (_ | _) <;>
    simp [sawWalk_flipN, flipN_flipN, flipI_ofNat, e1, e2]

/-- For Intel signals the position always refers to the least significant bit: the
`start_little` switch has no influence, on setting or on querying. -/
theorem intel_ignores_startLittle (size x : Int) (bn : Option Bool) (sl sl' : Bool) :
    setStartbit true size x bn sl = setStartbit true size x bn sl' ∧
    getStartbit true size x bn sl = getStartbit true size x bn sl' := by
  unfold setStartbit getStartbit; simp

/-- Setting in one notation and querying in another: the result is the spec's number for the
stored internal position (`set_stores_nonneg` and `get_other_notation` composed; this is the
statement the harness' oracle evaluates on the implementation). -/
theorem set_then_get (little : Bool) (size start : Nat) (bn bn' : Option Bool) (sl sl' : Bool)
    (hz : 1 ≤ size) (i : Int) (h : setStartbit little size start bn sl = some i) :
    ∃ n : Nat, i = n ∧
      getStartbit little size i bn' sl' = (specGetStartbit little size n bn' sl' : Int) := by
  have hi := set_stores_nonneg _ _ _ _ _ _ h
  refine ⟨i.toNat, by omega, ?_⟩
  have : i = (i.toNat : Int) := by omega
  rw [this]
  exact get_other_notation little size i.toNat bn' sl' hz

/-! non-vacuity: a 12-bit Motorola signal with DBC start bit 11 (MSB), queried as LSB position -/
example : setStartbit false 12 11 (some true) false = some 12 := by decide
example : getStartbit false 12 12 (some true) true = 16 := by decide
example : specGetStartbit false 12 12 (some true) true = 16 := by decide
example : setStartbit false 12 3 (some false) true = none := by decide

end CanVerif.C08
