import CanVerif.Model.DbcComment
import CanVerif.Proofs.DbcComment
import CanVerif.Proofs.StrLit
/-!
# C05 (continued) — comments over one or several lines are read back as written

The writer puts the text (quotes escaped) between `"` and `";`; the reader finds the end of the statement on the first line or on a
follow-up line and removes exactly the closing `";`.  The text comes back unchanged - including blanks at line ends, empty lines and
a line break at the very end.  Over several lines there are two exceptions (witnesses below): a quote followed by a semicolon on the
first line (the reader takes the line for a complete one-line comment: known finding `C05-comment-quote-semicolon`) or at the end of
a middle line, and a backslash at the very end.
-/
namespace CanVerif.C05d
open CanVerif CanVerif.Dbc CanVerif.Dbc.CommentProofs

/-- a comment is read back as written, whether it fits one line or runs over several -/
theorem comment_roundtrip (t : Str) (h : wfComment t = true) :
    ∃ first rest, renderCommentBody t = first :: rest ∧ readCommentBody first rest = some t := by
  obtain ⟨first, rest, hr, hread⟩ := roundtrip_more t h []
  exact ⟨first, rest, hr, by simpa using hread⟩

-- (`h` is not needed: on one line every text comes back)
set_option linter.unusedVariables false in
/-- on one line: what stands between the opening quote and the closing `";` -/
theorem comment_one_line (t : Str) (h : wfComment t = true) (h1 : '\n' ∉ t) :
    renderCommentBody t = [escapeQuotes t ++ ['"', ';']] ∧ readCommentBody (escapeQuotes t ++ ['"', ';']) [] = some t := by
  refine ⟨render_lines [] t ?_, read_one_line t []⟩
  intro l hl c hc hn
  rw [List.mem_singleton.mp hl, hn] at hc
  exact h1 hc

/-- the reader never reads beyond the statement: lines after the closing one are not looked at -/
theorem comment_ignores_following_lines (t : Str) (h : wfComment t = true) (more : List Str) :
    ∃ first rest, renderCommentBody t = first :: rest ∧ readCommentBody first (rest ++ more) = some t := by
  exact roundtrip_more t h more

/-- on one line a quote followed by a semicolon inside the text does no harm (the pattern is greedy: the last one closes) -/
example : readCommentBody (escapeQuotes "a\"; b".toList ++ ['"', ';']) [] = some "a\"; b".toList := by
  lit_chars; decide +kernel
example : wfComment "a\"; b".toList = true := by
  lit_chars; decide +kernel
/-- over several lines it does: the first line is taken for a complete comment and the rest of the text is lost -/
example : (match renderCommentBody "a \"; b\nsecond line".toList with
    | first :: rest => readCommentBody first rest
    | [] => none) = some "a \\".toList := by
  lit_chars; decide +kernel
example : wfComment "a \"; b\nsecond line".toList = false := by
  lit_chars; decide +kernel
/-- the other exception: a backslash at the very end of a text over several lines is lost (it reads as escaping the closing quote) -/
example : (match renderCommentBody "x\ny\\".toList with
    | first :: rest => readCommentBody first rest
    | [] => none) = some "x\ny".toList := by
  lit_chars; decide +kernel
/-! non-vacuity -/
example : renderCommentBody "first line \n\n  third \"quoted\" line\n".toList =
    ["first line ".toList, [], "  third \\\"quoted\\\" line".toList, "\";".toList] := by
  lit_chars; decide +kernel
example : readCommentBody "first line ".toList [[], "  third \\\"quoted\\\" line".toList, "\";".toList] =
    some "first line \n\n  third \"quoted\" line\n".toList := by
  lit_chars; decide +kernel
example : wfComment "first line \n\n  third \"quoted\" line\n".toList = true := by
  lit_chars; decide +kernel

end CanVerif.C05d
