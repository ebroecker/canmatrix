import CanVerif.Model.Dec
import CanVerif.Spec.Scaling
import CanVerif.Proofs.Dec
/-!
# C04 — physical scaling is exact decimal arithmetic and invertible

A raw value's physical value is exactly raw × factor + offset in decimal arithmetic, and converting
that physical value back gives the original raw value; a value-table label converts to its raw key,
named decoding returns the label for raw values that have one and the scaled number otherwise; when
no limits are given the physical minimum and maximum are the physical images of the raw range bounds.

Domain: the exact product and the exact sum have at most 28 digits (the library's precision).
`*_exact` theorems are stated for "the exact coefficient, as aligned by the operation, has at most 28
digits" (no rounding step is taken at all); `fix_exact_of_dvd` extends this to coefficients that
exceed 28 digits only by trailing zeros.
-/
namespace CanVerif.C04
open CanVerif

/-- the exact number a model decimal denotes -/
def exOf (d : Dec) : Spec.Ex := ⟨if d.neg then -(d.coeff : Int) else (d.coeff : Int), d.exp⟩

theorem exOf_eq (d : Dec) : exOf d = ⟨Dec.smant d, d.exp⟩ := rfl

theorem exOf_add (a b : Dec) :
    Spec.Ex.add (exOf a) (exOf b) =
      ⟨Dec.aligned a (min a.exp b.exp) + Dec.aligned b (min a.exp b.exp), min a.exp b.exp⟩ := by
  simp only [Spec.Ex.add, exOf_eq, Dec.aligned_eq]

theorem exOf_ofInt (i : Int) : exOf (Dec.ofInt i) = Spec.Ex.ofInt i := by
  simp only [exOf, Dec.ofInt, Spec.Ex.ofInt]
  congr 1
  by_cases h : i < 0 <;> simp [h] <;> omega

theorem exOf_negate (o : Dec) : Spec.Ex.neg (exOf o) = exOf { o with neg := !o.neg } := by
  simp only [Spec.Ex.neg, exOf]
  cases o.neg <;> simp

theorem fix_exact (neg : Bool) (c : Nat) (e : Int) (h : nd c ≤ PREC) : Dec.fix neg c e = ⟨neg, c, e⟩ := by
  exact Dec.fix_of_nd_le neg c e h

/-- a coefficient longer than 28 digits whose excess digits are zeros keeps its value -/
theorem fix_exact_of_dvd (neg : Bool) (c : Nat) (e : Int) (hc : c ≠ 0) (hlong : PREC < nd c)
    (hdvd : 10 ^ (nd c - PREC) ∣ c) :
    Dec.fix neg c e = ⟨neg, c / 10 ^ (nd c - PREC), e + ((nd c - PREC : Nat) : Int)⟩ := by
  exact Dec.fix_of_dvd neg c e hc hlong hdvd

/-- multiplication is exact when the product of the coefficients has at most 28 digits -/
theorem mul_exact (a b : Dec) (h : nd (a.coeff * b.coeff) ≤ PREC) :
    exOf (Dec.mul a b) = Spec.Ex.mul (exOf a) (exOf b) := by
  unfold Dec.mul
  rw [Dec.fix_of_nd_le _ _ _ h]
  simp only [exOf, Spec.Ex.mul]
  cases a.neg <;> cases b.neg <;> simp [Int.natCast_mul, Int.neg_mul, Int.mul_neg]

/-- addition is exact when the aligned sum has at most 28 digits -/
theorem add_exact (a b : Dec) (h : nd (Spec.Ex.add (exOf a) (exOf b)).m.natAbs ≤ PREC) :
    exOf (Dec.add a b) = Spec.Ex.add (exOf a) (exOf b) := by
  rw [exOf_add] at h ⊢
  obtain ⟨h1, h2⟩ := Dec.add_spec a b h
  rw [exOf_eq, h1, h2]

/-- `calcMin`/`calcMax` add `offset + raw · factor`, in the order of the Python source; `raw2phys` adds `raw · factor + offset` -/
theorem add_comm (a b : Dec) : Dec.add a b = Dec.add b a := by
  simp only [Dec.add]
  rw [Int.min_comm a.exp b.exp, Int.add_comm (Dec.aligned a _), Bool.and_comm]

/-- rounding an integer-valued decimal to an integer returns that integer -/
theorem roundInt_ofInt (i : Int) : (Dec.ofInt i).roundInt = i := by
  unfold Dec.roundInt Dec.ofInt
  simp
  split <;> omega

/-- A raw value's physical value is exactly raw × factor + offset (inside the precision). -/
theorem raw2phys_exact (s : ScaleSig) (raw : Int)
    (hmul : nd (raw.natAbs * s.factor.coeff) ≤ PREC)
    (hsum : nd (Spec.physOf raw (exOf s.factor) (exOf s.offset)).m.natAbs ≤ PREC) :
    exOf (s.raw2phys raw) = Spec.physOf raw (exOf s.factor) (exOf s.offset) := by
  unfold ScaleSig.raw2phys Spec.physOf
  have hm := mul_exact (Dec.ofInt raw) s.factor hmul
  rw [exOf_ofInt] at hm
  rw [add_exact _ _ (by rw [hm]; exact hsum), hm]

/-- Converting the physical value back gives the original raw value (non-zero factor, inside the precision). -/
theorem phys2raw_raw2phys (s : ScaleSig) (raw : Int) (hf : s.factor.coeff ≠ 0)
    (hmul : nd (raw.natAbs * s.factor.coeff) ≤ PREC)
    (hsum : nd (Spec.physOf raw (exOf s.factor) (exOf s.offset)).m.natAbs ≤ PREC)
    (hoff : nd s.offset.coeff ≤ PREC)
    (hback : nd (Spec.Ex.add (Spec.physOf raw (exOf s.factor) (exOf s.offset)) (Spec.Ex.neg (exOf s.offset))).m.natAbs ≤ PREC) :
    s.phys2raw (s.raw2phys raw) = raw := by
  have _ := hoff  -- not needed: the offset only enters through `hsum` and `hback`
  have hP := mul_exact (Dec.ofInt raw) s.factor hmul
  rw [exOf_ofInt] at hP
  unfold Spec.physOf at hsum hback
  rw [← hP] at hsum hback
  have hS := add_exact _ s.offset hsum
  rw [← hS, exOf_negate] at hback
  have hA := add_exact _ _ hback
  -- the exact value of `raw2phys raw - offset`: `raw · factor`, at the smaller of the two exponents
  have hv := hA
  rw [hS, ← exOf_negate, Spec.Ex.add_add_neg, hP] at hv
  simp only [Spec.Ex.mul, Spec.Ex.ofInt, Int.zero_add] at hv
  unfold ScaleSig.phys2raw ScaleSig.raw2phys Dec.sub
  apply Dec.roundInt_div_exact _ s.factor raw (s.factor.exp - min s.factor.exp s.offset.exp).toNat hf (congrArg Spec.Ex.m hv)
  · have he := congrArg Spec.Ex.e hv
    simp only [exOf] at he
    omega
  · rw [← Dec.natAbs_smant]
    show nd (exOf _).m.natAbs ≤ PREC
    rw [hA]; exact hback

/-- the raw range of an integer signal of width 1..128 -/
theorem raw_range (s : ScaleSig) (h1 : 1 ≤ s.size) (h2 : s.size ≤ 128) : s.rawRange = Spec.rawRange s.size s.signed := by
  have _ := h1
  unfold ScaleSig.rawRange Spec.rawRange
  simp only [h2, if_true]
  cases s.signed <;> simp

/-- Default limits are the physical images of the bounds of the raw range. -/
theorem default_min_max (s : ScaleSig) :
    s.calcMin = s.raw2phys s.rawRange.1 ∧ s.calcMax = s.raw2phys s.rawRange.2 := by
  unfold ScaleSig.calcMin ScaleSig.calcMax ScaleSig.raw2phys
  exact ⟨add_comm _ _, add_comm _ _⟩

/-- A value-table label converts to a raw key carrying that label (the first one, in table order). -/
theorem label_to_key (s : ScaleSig) (l : String) :
    (∀ k, s.labelToRaw l = some k → (k, l) ∈ s.values) ∧
    (s.labelToRaw l = none ↔ ∀ kv ∈ s.values, kv.2 ≠ l) := by
  unfold ScaleSig.labelToRaw
  constructor
  · intro k hk
    obtain ⟨kv, hfind, rfl⟩ := Option.map_eq_some_iff.1 hk
    have hl := List.find?_some hfind
    exact eq_of_beq hl ▸ List.mem_of_find?_eq_some hfind
  · simp [List.find?_eq_none]

/-- Named decoding returns the label for raw values that have one … -/
theorem named_value_label (s : ScaleSig) (raw : Int) (h : ∃ l, (raw, l) ∈ s.values) :
    ∃ l, s.namedValue raw = .inl l ∧ (raw, l) ∈ s.values := by
  obtain ⟨l, hl⟩ := h
  unfold ScaleSig.namedValue
  cases hfind : s.values.find? (·.1 == raw) with
  | none => exact absurd (beq_self_eq_true raw) (List.find?_eq_none.1 hfind _ hl)
  | some kv =>
    have hk := List.find?_some hfind
    exact ⟨kv.2, rfl, eq_of_beq hk ▸ List.mem_of_find?_eq_some hfind⟩

/-- … and the scaled number otherwise. -/
theorem named_value_number (s : ScaleSig) (raw : Int) (h : ∀ kv ∈ s.values, kv.1 ≠ raw) :
    s.namedValue raw = .inr (s.raw2phys raw) := by
  unfold ScaleSig.namedValue
  rw [List.find?_eq_none.mpr fun kv hkv => by simpa using h kv hkv]

/-- a factor of 0 is normalised to 1 -/
theorem factor_zero_is_one (f : Dec) (h : f.coeff = 0) : normFactor f = ⟨false, 1, 0⟩ := by
  unfold normFactor; rw [if_pos h]

/-! non-vacuity: factor 0.1, offset -40, raw 1234 (a temperature signal) -/
def exSig : ScaleSig := { size := 16, signed := false, factor := ⟨false, 1, -1⟩, offset := ⟨true, 40, 0⟩ }
example : exSig.raw2phys 1234 = ⟨false, 834, -1⟩ := by decide +kernel
example : exSig.phys2raw ⟨false, 834, -1⟩ = 1234 := by decide +kernel
example : nd (1234 * exSig.factor.coeff) ≤ PREC := by decide

end CanVerif.C04
