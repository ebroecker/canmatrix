import CanVerif.Model.Exports
import CanVerif.Spec.Exports
import CanVerif.Proofs.Exports
/-!
# C19 — one-way exports (Scapy, Wireshark, FIBEX, CSV, Canard) describe the same layout

Read with the target tool's conventions (Spec/Exports.lean), the recorded position selects exactly
the signal's payload bits (`sigAddr`, the addresses decoding depends on, C01).
Unbounded: any placement, width, frame length.
-/
namespace CanVerif.C19
open CanVerif

/-- Scapy `SignalField(start=…)` and FIBEX `BIT-POSITION`: the DBC convention selects the signal's bits. -/
theorem scapy_fibex_selects_sigAddrs (s : Sig) (hz : 1 ≤ s.size) :
    ∃ p : Nat, dbcStartOf s = (p : Int) ∧
      ∀ i, i < s.size → Spec.dbcAddr s.little p s.size i = sigAddr s.little s.start s.size i := by
  refine ⟨if s.little then s.start else flipN s.start, dbcStartOf_eq s, ?_⟩
  intro i hi
  unfold Spec.dbcAddr sigAddr
  cases s.little
  · simp only [Bool.false_eq_true, if_false, sawWalk_flipN]
    congr 1; omega
  · simp

/-- the byte-order flags (Scapy's `<`, FIBEX's high-low flag) are the signal's -/
theorem scapy_fmt_flags (s : Sig) :
    (scapyFmt s).startsWith "<" = s.little ∧ fibexHighLow s = !s.little := by
  refine ⟨?_, rfl⟩
  unfold scapyFmt
  cases s.little <;> simp

/-- Canard keys (and the "lsb" notation of csv/xls/json): the position of the least significant bit. -/
theorem canard_key_is_lsb (s : Sig) (hz : 1 ≤ s.size) :
    ∃ p : Nat, lsbStartOf s = (p : Int) ∧ p = sigAddr s.little s.start s.size 0 ∧
      ∀ i, i < s.size → Spec.lsbAddr s.little p i = sigAddr s.little s.start s.size i := by
  refine ⟨if s.little then s.start else flipN (s.start + s.size - 1), lsbStartOf_eq s hz, ?_, ?_⟩
  · unfold sigAddr; cases s.little <;> simp
  · intro i hi
    unfold Spec.lsbAddr sigAddr
    cases s.little
    · simp only [Bool.false_eq_true, if_false, flipN_flipN]
    · simp

/-- "msbreverse" (csv/xls): the internal position. -/
theorem msbreverse_selects_sigAddrs (s : Sig) (hz : 1 ≤ s.size) :
    ∃ p : Nat, internalStartOf s = (p : Int) ∧
      ∀ i, i < s.size → Spec.msbrevAddr s.little p s.size i = sigAddr s.little s.start s.size i := by
  refine ⟨s.start, internalStartOf_eq s, ?_⟩
  intro i hi
  unfold Spec.msbrevAddr sigAddr
  cases s.little <;> simp

/-- CSV byte and bit columns denote the start bit of the chosen notation: `8·(byte−1) + bit`. -/
theorem csv_position_denotes (fmt : String) (s : Sig) (hz : 1 ≤ s.size) :
    let c := csvColumns fmt s
    1 ≤ c.1 ∧ 0 ≤ c.2.1 ∧ c.2.1 < 8 ∧ 8 * (c.1 - 1) + c.2.1 = csvStartOf fmt s ∧
    c.2.2.1 = (if s.little then "i" else "m") ∧ c.2.2.2 = (if s.signed then "s" else "u") := by
  have hn := csvStartOf_nonneg fmt s hz
  simp only [csvColumns]
  refine ⟨by omega, by omega, by omega, by omega, trivial, trivial⟩

/-- Wireshark: `bitfield(offset, len)` on `pdu` (Motorola) or on the byte-reversed `reversed_pdu`
(Intel) reads exactly the number formed by the signal's bits. -/
theorem wireshark_selects_sigAddrs (s : Sig) (p : List Nat) (h : inFrame s p.length) :
    let w := wiresharkField p.length s
    Spec.tvbBitfield (if w.1 == "reversed_pdu" then p.reverse else p) w.2.1 w.2.2 = specRaw p s.little s.start s.size := by
  simp only [wiresharkField_eq, wsBuf_eq]
  exact tvb_eq_specRaw s p h

/-- Wireshark sign fix-up: subtracting `1 << size` when the first bit is set is two's complement. -/
theorem wireshark_sign_fixup (s : Sig) (p : List Nat) (h : inFrame s p.length) (hs : s.signed = true) (hf : s.isFloat = false) :
    let w := wiresharkField p.length s
    Spec.wiresharkValue p w.1 w.2.1 w.2.2 (wiresharkSignFix s) = specSigned (specRaw p s.little s.start s.size) s.size := by
  have hfix : wiresharkSignFix s = some (2 ^ s.size) := by
    simp [wiresharkSignFix, hs, hf, Nat.shiftLeft_eq]
  -- the probed bit is the top bit, and the top bit says whether the value reaches `2^(size-1)`
  have hm := specSum_msb (fun i => payloadBit p (sigAddr s.little s.start s.size i)) s.size h.2
  simp only [wiresharkField_eq, Spec.wiresharkValue, wsBuf_eq, hfix, tvb_eq_specRaw s p h, tvb_one s p h,
    specSigned, specRaw, ge_iff_le, hm, h.2, true_and]
  cases payloadBit p (sigAddr s.little s.start s.size (s.size - 1)) <;> simp

/-- unsigned signals carry no fix-up -/
theorem wireshark_unsigned (s : Sig) (p : List Nat) (h : inFrame s p.length) (hs : s.signed = false) :
    let w := wiresharkField p.length s
    Spec.wiresharkValue p w.1 w.2.1 w.2.2 (wiresharkSignFix s) = (specRaw p s.little s.start s.size : Int) := by
  have hfix : wiresharkSignFix s = none := by simp [wiresharkSignFix, hs]
  simp only [wiresharkField_eq, Spec.wiresharkValue, wsBuf_eq, hfix, tvb_eq_specRaw s p h]

/-- the sign probe reads the first bit of the very field whose value is fixed up, so the value computed
with the probe where the generated code reads it is the one of `wireshark_sign_fixup` -/
theorem wireshark_probe_is_msb (s : Sig) (p : List Nat) (n : Nat) (fix : Option Nat) :
    let w := wiresharkField n s
    Spec.wiresharkValueProbe p w.1 w.2.1 w.2.2 (wiresharkProbe n s).1 (wiresharkProbe n s).2 fix
      = Spec.wiresharkValue p w.1 w.2.1 w.2.2 fix := by
  simp [Spec.wiresharkValueProbe, Spec.wiresharkValue, wiresharkProbe]

/-- FIBEX base data type: signedness, float-ness and a wide enough container, for every width 1..64
(a finite table: all 65 x 2 x 2 combinations are evaluated by the kernel) -/
theorem fibex_base_type_table :
    ∀ n : Fin 65, ∀ sg fl : Bool, 1 ≤ n.val → (fl = true → n.val = 32 ∨ n.val = 64) →
      Spec.fibexTypeOk (fibexBaseTypeOf n.val sg fl) n.val sg fl = true := by
  decide +kernel

theorem fibex_base_type_ok (s : Sig) (h1 : 1 ≤ s.size) (h2 : s.size ≤ 64) (hf : s.isFloat = true → s.size = 32 ∨ s.size = 64) :
    Spec.fibexTypeOk (fibexBaseType s) s.size s.signed s.isFloat = true :=
  fibex_base_type_table ⟨s.size, by omega⟩ s.signed s.isFloat h1 hf

/-! non-vacuity: 12-bit Motorola signal with internal start 4 -/
example : dbcStartOf { name := "s", start := 4, size := 12, little := false } = 3 := by decide
example : lsbStartOf { name := "s", start := 4, size := 12, little := false } = 8 := by decide
example : wiresharkField 8 { name := "s", start := 4, size := 12, little := true } = ("reversed_pdu", 48, 12) := by decide

end CanVerif.C19
