import CanVerif.Model.ArbId
import CanVerif.Spec.J1939
import CanVerif.Proofs.ArbId
/-!
# C09 — CAN identifiers: range-checked, lossless compound form, correct J1939 view

All statements are for every identifier (no sampling): every 11-bit / 29-bit value, every field
value, every matrix (list of frames) with 11-bit and J1939 frames in any order.
-/
namespace CanVerif.C09
open CanVerif CanVerif.ArbId


/-- An identifier can be constructed iff it lies in the 11-bit resp. 29-bit range. -/
theorem ctor_range (id : Int) (ext : Bool) :
    (∃ a, ArbId.make id ext = .ok a) ↔ (0 ≤ id ∧ Spec.validId id.toNat ext = true) := by
  constructor
  · rintro ⟨a, h⟩
    have := (make_ok_iff id ext a).1 h
    exact ⟨this.1, this.2.1⟩
  · rintro ⟨h0, hv⟩
    exact ⟨⟨id.toNat, ext⟩, (make_ok_iff id ext _).2 ⟨h0, hv, rfl⟩⟩

/-- a constructed identifier carries exactly the given number and flag -/
theorem ctor_value (id : Int) (ext : Bool) (a : ArbId) (h : ArbId.make id ext = .ok a) :
    (a.id : Int) = id ∧ a.ext = ext := by
  obtain ⟨h0, _, rfl⟩ := (make_ok_iff id ext a).1 h
  exact ⟨Int.toNat_of_nonneg h0, rfl⟩

/-- compound integer: the top bit (2^31) marks extended identifiers -/
theorem toCompound_spec (a : ArbId) (hv : Spec.validId a.id a.ext = true) :
    a.toCompound = Spec.compound a.id a.ext := by
  obtain ⟨id, ext⟩ := a
  cases ext
  · rfl
  · exact or_bit31 id (Nat.lt_trans ((validId_ext id).mp hv) (by decide))

/-- identifier → compound integer → identifier is the identity -/
theorem compound_roundtrip (a : ArbId) (hv : Spec.validId a.id a.ext = true) :
    ArbId.fromCompound a.toCompound = .ok a := by
  obtain ⟨id, ext⟩ := a
  cases ext
  · have hlt := (validId_std id).mp hv
    exact (fromCompound_std id (by omega)).trans (make_ok id false hv)
  · have hlt := (validId_ext id).mp hv
    show fromCompound (id ||| compoundExtendedMask) = _
    rw [or_bit31 id (by omega), fromCompound_ext id hlt]
    exact make_ok id true hv

/-- compound integer → identifier → compound integer is the identity on compound integers of valid identifiers -/
theorem compound_roundtrip' (i : Nat) (hi : i < 2 ^ 11 ∨ (2 ^ 31 ≤ i ∧ i < 2 ^ 31 + 2 ^ 29)) :
    ∃ a, ArbId.fromCompound i = .ok a ∧ a.toCompound = i := by
  rcases hi with hi | ⟨hlo, hhi⟩
  · exact ⟨⟨i, false⟩, (fromCompound_std i (by omega)).trans (make_ok i false ((validId_std i).mpr hi)), rfl⟩
  · obtain ⟨j, rfl⟩ : ∃ j, i = j + 2 ^ 31 := ⟨i - 2 ^ 31, by omega⟩
    have hj : j < 2 ^ 29 := by omega
    exact ⟨⟨j, true⟩, (fromCompound_ext j hj).trans (make_ok j true ((validId_ext j).mpr hj)),
      or_bit31 j (by omega)⟩

/-- An integer without the extended flag (bits 29..31 clear) that does not fit 11 bits is refused:
no standard identifier is made out of its low bits. -/
theorem compound_out_of_range_refused (i : Nat) (hlo : 2 ^ 11 ≤ i) (hhi : i < 2 ^ 29) :
    ∀ a, ArbId.fromCompound i ≠ .ok a := by
  intro a h
  rw [fromCompound_std i hhi, make_ok_iff] at h
  have := (validId_std _).mp h.2.1
  omega

/-- the hypothesis is met: 0x800 is such an integer -/
example : ∀ a, ArbId.fromCompound 0x800 ≠ .ok a := compound_out_of_range_refused 0x800 (by decide) (by decide)

theorem fields_eq_spec (id : Nat) :
    sa id = Spec.sa id ∧ ps id = Spec.ps id ∧ pf id = Spec.pf id ∧
    dp id = Spec.dp id ∧ edp id = Spec.edp id ∧ prio id = Spec.prio id :=
  ⟨sa_eq id, ps_eq id, pf_eq id, dp_eq id, edp_eq id, prio_eq id⟩

/-- The fields of a 29-bit identifier always recompose to that identifier. -/
theorem fields_recompose (id : Nat) (h : id < 2 ^ 29) :
    Spec.compose (prio id) (edp id) (dp id) (pf id) (ps id) (sa id) = id := by
  exact compose_fields id h

/-- The PGN follows J1939-21: the PDU-specific byte belongs to the PGN only when PDU format ≥ 240. -/
theorem pgn_rule (id : Nat) : pgnOfId id = Spec.pgn id := pgnOfId_eq id

/-- The PGN does not depend on priority and source address, nor - for PDU1 - on the destination. -/
theorem pgn_ignores_prio_sa_da (p e d f s a p' a' s' : Nat)
    (he : e < 2) (hd : d < 2) (hf : f < 256) (hs : s < 256) (ha : a < 256) (hp : p < 8)
    (ha' : a' < 256) (hp' : p' < 8) (hs' : s' < 256) :
    pgnOfId (Spec.compose p e d f s a) = pgnOfId (Spec.compose p' e d f s a') ∧
    (f < 240 → pgnOfId (Spec.compose p e d f s a) = pgnOfId (Spec.compose p' e d f s' a')) := by
  rw [pgn_compose ⟨hp, he, hd, hf, hs, ha⟩, pgn_compose ⟨hp', he, hd, hf, hs, ha'⟩,
    pgn_compose ⟨hp', he, hd, hf, hs', ha'⟩]
  refine ⟨rfl, fun hf240 => ?_⟩
  rw [if_neg (by omega), if_neg (by omega)]

theorem setPriority_frame (a : ArbId) (v : Nat) (h : a.id < 2 ^ 29) :
    let b := a.setPriority v
    b.ext = true ∧ b.id < 2 ^ 29 ∧ prio b.id = v % 8 ∧ edp b.id = edp a.id ∧ dp b.id = dp a.id ∧
    pf b.id = pf a.id ∧ ps b.id = ps a.id ∧ sa b.id = sa a.id := by
  exact ⟨rfl, fields_of_compose (setPriority_id a v h) ⟨Nat.mod_lt v (by decide), (fields_lt a.id).2⟩⟩

theorem setSource_frame (a : ArbId) (v : Nat) (h : a.id < 2 ^ 29) :
    let b := a.setSource v
    b.ext = true ∧ b.id < 2 ^ 29 ∧ sa b.id = v % 256 ∧ prio b.id = prio a.id ∧ edp b.id = edp a.id ∧
    dp b.id = dp a.id ∧ pf b.id = pf a.id ∧ ps b.id = ps a.id := by
  intro b
  obtain ⟨lprio, ledp, ldp, lpf, lps, _⟩ := fields_lt a.id
  obtain ⟨hlt, hprio, hedp, hdp, hpf, hps, hsa⟩ :=
    fields_of_compose (setSource_id a v h) ⟨lprio, ledp, ldp, lpf, lps, Nat.mod_lt v (by decide)⟩
  exact ⟨rfl, hlt, hsa, hprio, hedp, hdp, hpf, hps⟩

theorem setPgn_frame (a : ArbId) (v : Nat) (h : a.id < 2 ^ 29) :
    let b := a.setPgn v
    b.ext = true ∧ b.id < 2 ^ 29 ∧ prio b.id = prio a.id ∧ sa b.id = sa a.id ∧
    ps b.id = v % 256 ∧ pf b.id = v / 256 % 256 ∧ dp b.id = v / 2 ^ 16 % 2 ∧ edp b.id = v / 2 ^ 17 % 2 := by
  intro b
  obtain ⟨lprio, _, _, _, _, lsa⟩ := fields_lt a.id
  obtain ⟨hlt, hprio, hedp, hdp, hpf, hps, hsa⟩ :=
    fields_of_compose (setPgn_id a v h) (pgn_digits_lt _ v _ lprio lsa)
  exact ⟨rfl, hlt, hprio, hsa, hps, hpf, hdp, hedp⟩

/-- setting a PGN and reading it back: identity for PDU2 PGNs and for PDU1 PGNs whose low byte is 0 -/
theorem pgn_setPgn (a : ArbId) (v : Nat) (h : a.id < 2 ^ 29) (hv : v < 2 ^ 18)
    (hpdu : v / 256 % 256 ≥ 240 ∨ v % 256 = 0) :
    pgnOfId (a.setPgn v).id = v := by
  rw [pgnOfId_setPgn a v h, Nat.mod_eq_of_lt hv]
  split
  · rfl
  · omega

/-- `from_pgn` then `.pgn` normalises a PGN (drops the destination byte of PDU1) -/
theorem fromPgn_pgn (p : Nat) (hp : p < 2 ^ 18) :
    ∃ q, ArbId.fromPgn p = .ok q ∧ q.ext = true ∧
      pgnOfId q.id = (if p / 256 % 256 ≥ 240 then p else p / 256 * 256) :=
  ⟨⟨p <<< 8, true⟩, fromPgn_ok p hp, rfl, pgnOfId_shift p hp⟩

/-- the J1939 view is refused for 11-bit identifiers -/
theorem j1939_needs_extended (a : ArbId) (h : a.ext = false) :
    a.pgn = .error .needsExtended ∧ a.j1939Source = .error .needsExtended ∧
    a.j1939Priority = .error .needsExtended ∧ a.j1939Destination = .error .needsExtended := by
  simp [ArbId.pgn, j1939Source, j1939Priority, j1939Destination, h]

/-- all frames of a matrix carry valid identifiers -/
def validFrames (frames : List FrameKey) : Prop := ∀ f ∈ frames, Spec.validId f.aid.id f.aid.ext = true

-- `hv` and `hkv` keep the two statements to what the property quantifies over: matrices of frames
-- with valid identifiers, 29-bit keys.  The proofs need neither (`resolveForDecode_ext` is the
-- statement without them).
set_option linter.unusedVariables false in
/-- Soundness: the frame chosen for a received 29-bit identifier is in the matrix, is a 29-bit frame
and has the same PGN as the received identifier - whatever the positions of 11-bit frames. -/
theorem decode_by_pgn_sound (frames : List FrameKey) (k : ArbId) (hv : validFrames frames)
    (hj : frames.any (·.isJ1939) = true) (hk : k.ext = true) (hkv : k.id < 2 ^ 29)
    (f : FrameKey) (h : resolveForDecode frames k = .ok (some f)) :
    f ∈ frames ∧ f.aid.ext = true ∧ Spec.pgn f.aid.id = Spec.pgn k.id := by
  obtain ⟨r, hr, hs, _⟩ := resolveForDecode_ext frames k hj hk
  rw [hr] at h
  cases h
  rw [← pgn_rule, ← pgn_rule]
  exact hs f rfl

set_option linter.unusedVariables false in
/-- Completeness: never an error; nothing is decoded exactly when no 29-bit frame of the matrix
carries the PGN (whatever priority, source address and - for PDU1 - destination were received). -/
theorem decode_by_pgn_complete (frames : List FrameKey) (k : ArbId) (hv : validFrames frames)
    (hj : frames.any (·.isJ1939) = true) (hk : k.ext = true) (hkv : k.id < 2 ^ 29) :
    ∃ r, resolveForDecode frames k = .ok r ∧
      (r = none ↔ ∀ f ∈ frames, f.aid.ext = true → Spec.pgn f.aid.id ≠ Spec.pgn k.id) := by
  obtain ⟨r, hr, hs, hn⟩ := resolveForDecode_ext frames k hj hk
  simp only [← pgn_rule]
  refine ⟨r, hr, hn, fun hall => ?_⟩
  cases r with
  | none => rfl
  | some f => exact absurd (hs f rfl).2.2 (hall f (hs f rfl).1 (hs f rfl).2.1)

/-- An 11-bit identifier received in a J1939 matrix decodes to nothing. -/
theorem decode_std_in_j1939 (frames : List FrameKey) (k : ArbId)
    (hj : frames.any (·.isJ1939) = true) (hk : k.ext = false) :
    resolveForDecode frames k = .ok none := by
  unfold resolveForDecode
  simp [hj, hk]

/-! non-vacuity -/
example : pgnOfId 0x18FEF102 = 0xFEF1 := by decide
example : pgnOfId 0x18EA2102 = 0xEA00 := by decide
example : resolveForDecode
    [{ name := "std", aid := ⟨0x10, false⟩ }, { name := "j", aid := ⟨0x0CF00400, true⟩, isJ1939 := true }]
    ⟨0x18F00401, true⟩ = .ok (some { name := "j", aid := ⟨0x0CF00400, true⟩, isJ1939 := true }) := by rfl

end CanVerif.C09
