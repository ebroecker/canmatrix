import CanVerif.Model.DbcLines
import CanVerif.Proofs.DbcLines
import CanVerif.Proofs.StrLit
/-!
# C20 — readers tolerate bad lines and truncation (DBC line dispatcher)

What is proved here concerns the control skeleton of the DBC reader: a line that starts with no known
keyword, or whose statement pattern does not match (truncated statement, wrong field type), leaves
the reader state untouched, so inserting any number of such lines anywhere between other lines does
not change the result of loading; and loading a prefix of a file is loading the file up to there
(the reader is a left fold, so every statement wholly inside the prefix has taken effect exactly as
in the complete file up to that point).  That the real handlers write nothing before a failing
pattern match, the multi-line comment state, and the post-processing after the fold
(which must not raise - fix 7112423) are tied by the correspondence check (partial); the model of the whole reader proves the
comment state in Props/C05f.lean (`file_with_comments_is_fold`, `bad_lines_only_counted`) and the post-processing in
Props/C05i.lean and C05p-C05r.
-/
namespace CanVerif.C20
open CanVerif

variable {σ : Type}

/-- a bad line for reader `r`: unknown keyword, or a known keyword whose pattern does not match -/
def BadLine (r : Reader σ) (b : List Char) : Prop :=
  classify b = .unknown ∨ r.matchesPattern (classify b) b = false

/-- A bad line is a no-op on the reader state. -/
theorem bad_line_is_noop (r : Reader σ) (st : σ) (b : List Char) (hb : BadLine r b) : stepLine r st b = st := by
  unfold stepLine
  by_cases he : (stripWs b).isEmpty = true
  · simp [he]
  · simp only [he, Bool.false_eq_true, if_false]
    rcases hb with hb | hb
    · simp [hb]
    · by_cases hk : (classify b == LineKind.unknown) = true
      · simp [hk]
      · simp [hk, hb]

/-- Loading ignores bad lines wherever they stand: removing all bad lines from a file does not change
the result (any multiset of insertions at any positions). -/
theorem bad_lines_ignored (r : Reader σ) (isBad : List Char → Bool) (hbad : ∀ b, isBad b = true → BadLine r b)
    (init : σ) (lines : List (List Char)) :
    loadLines r init lines = loadLines r init (lines.filter fun l => !isBad l) := by
  unfold loadLines
  induction lines generalizing init with
  | nil => rfl
  | cons l rest ih =>
    simp only [List.foldl_cons, List.filter_cons]
    by_cases hl : isBad l = true
    · simp only [hl, Bool.not_true, Bool.false_eq_true, if_false]
      rw [bad_line_is_noop r init l (hbad l hl)]
      exact ih init
    · have : isBad l = false := by simpa using hl
      simp only [this, Bool.not_false, if_true, List.foldl_cons]
      exact ih _

/-- Truncation between lines: the state after a prefix of the file is exactly the state the complete
load passes through at that point; the rest of the file is applied on top of it. -/
theorem prefix_state (r : Reader σ) (init : σ) (pre post : List (List Char)) :
    loadLines r init (pre ++ post) = loadLines r (loadLines r init pre) post :=
  loadLines_append r init pre post

/-- A property of the state that every step preserves (e.g. "frame F with signal s at this placement is
present" for handlers that never modify existing layout fields) still holds after loading any
continuation - in particular it holds for the complete file if it holds after the prefix. -/
theorem prefix_monotone (r : Reader σ) (P : σ → Prop) (hstep : ∀ st l, P st → P (stepLine r st l))
    (st : σ) (post : List (List Char)) (h : P st) : P (loadLines r st post) := by
  unfold loadLines
  induction post generalizing st with
  | nil => exact h
  | cons l rest ih => exact ih _ (hstep st l h)

/-- the dispatcher recognises exactly the statement keywords; some closed instances (non-vacuity and
the fault kind "unknown keyword") -/
theorem classify_examples :
    classify "BO_ 16 F: 8 E1".toList = .bo ∧ classify " SG_ s : 0|8@1+ (1,0) [0|0] \"\" E1".toList = .sg ∧
    classify "BA_DEF_ BO_ \"X\" INT 0 1;".toList = .baDefTyped ∧ classify "BA_DEF_  \"X\" INT 0 1;".toList = .baDef ∧
    classify "BA_DEF_DEF_ \"X\" 1;".toList = .baDefDef ∧ classify "FOO_ 1 2 3;".toList = .unknown ∧
    classify "BO_TX_BU_ 16 : A,B;".toList = .boTxBu ∧ classify "BOX_ 16".toList = .unknown ∧
    classify "SG_MUL_VAL_ 1 a b 1-1;".toList = .sgMulVal ∧ classify "VAL_TABLE_ t 0 \"a\";".toList = .valTable := by
  lit_chars; decide +kernel

/-- which mismatching statements are reported ("error with line no") and which are silently skipped -/
theorem mismatch_reporting :
    onMismatch .bo = .errorPrinted ∧ onMismatch .sg = .errorPrinted ∧ onMismatch .ev = .errorPrinted ∧
    onMismatch .cmSg = .silent ∧ onMismatch .val = .silent ∧ onMismatch .sgMulVal = .silent := by
  decide

end CanVerif.C20
