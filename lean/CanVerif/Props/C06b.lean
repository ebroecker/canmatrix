import CanVerif.Props.C05
import CanVerif.Props.C05o
/-!
# C06 / C07 for DBC at the level of the whole file (corollaries of Props/C05o)

Writing a matrix to DBC and reading the file back (the line loop of `dbc.load` on the text `dbc.dump` writes, line for line) yields
* C06: the same frames, identified by identifier and format, in the same order, each with the same length, and within each frame the
  same signals by name, each with the same start bit, width and byte order;
* C07: for every signal the same sign flag, float flag, factor, offset and limits as numbers, unit, receivers, multiplexer role and
  selector value, value table, and for every frame all its senders in their order.
The matrix `dbc.load` returns is this state after the post-processing (placeholder ECU, long names, ECU list: Props/C05i, C05p–C05r;
start values: Props/C05 `start_value_roundtrip` for the carrier attribute, the rest by the round-trip observation).
-/
namespace CanVerif.C06b
open CanVerif CanVerif.Dbc CanVerif.Dbc.FileProofs

/-- what C06 compares of a signal -/
def layout (s : SgLine) : Str × Nat × Nat × Bool := (s.name, s.start, s.size, s.little)

theorem layout_reread (s : SgLine) : layout (rereadSg s) = layout s := by
  unfold layout rereadSg; rfl

theorem dbc_file_keeps_frames_and_layout (es : List WEcu) (hes : wfEcus es = true) (ts : List WTable) (hts : wfTables ts = true)
    (ds : List DefLine) (hds : wfDefs ds = true) (dds : List DefDefLine) (hdds : wfDefaults ds dds = true)
    (ga : List (Str × Str)) (hga : wfAttrs (expectDefs ds dds) .global .global ga = true)
    (hea : ∀ e ∈ es, wfAttrs (expectDefs ds dds) .ecu (.ecu e.name) e.attrs = true)
    (ps : List (WFrame × (Nat × Bool))) (hwf : ∀ p ∈ ps, p.1.wf p.2 = true) (hdist : ps.Pairwise fun p q => p.2 ≠ q.2)
    (hfa : ∀ p ∈ ps, p.1.wfA (expectDefs ds dds) = true) :
    (readFile (writeDbc es ts ds dds ga (ps.map (·.1)))).frames.map (fun f => (f.key, f.size, f.sigs.map fun s => layout s.sg)) =
      ps.map (fun p => (p.2, p.1.bo.size, p.1.sigs.map fun s => layout s.sg)) := by
  rw [(C05o.dbc_file_roundtrip_line_for_line es hes ts hts ds hds dds hdds ga hga hea ps hwf hdist hfa).2.2.2.1, List.map_map]
  apply List.map_congr_left
  intro p _
  simp only [Function.comp_def, WFrame.expectA, WFrame.expect, List.map_map, layout_reread]

/-- what C07 compares of a signal: sign, float type, scaling and limits (as numbers), unit, receivers, multiplexer role -/
def sameMeaning (r : RSig) (s : WSig) : Prop :=
  r.sg.signed = s.sg.signed ∧ r.isFloat = s.isFloat ∧ SpecRT.decEq r.sg.factor s.sg.factor = true ∧ SpecRT.decEq r.sg.offset s.sg.offset = true ∧
  SpecRT.decEq r.sg.min s.sg.min = true ∧ SpecRT.decEq r.sg.max s.sg.max = true ∧ r.sg.unit = s.sg.unit ∧ r.sg.receivers = s.sg.receivers ∧
  r.sg.tag = s.sg.tag ∧ r.values = s.values ∧ r.muxer = s.muxer ∧ r.ranges = s.ranges

theorem dbc_file_keeps_interpretation (es : List WEcu) (hes : wfEcus es = true) (ts : List WTable) (hts : wfTables ts = true)
    (ds : List DefLine) (hds : wfDefs ds = true) (dds : List DefDefLine) (hdds : wfDefaults ds dds = true)
    (ga : List (Str × Str)) (hga : wfAttrs (expectDefs ds dds) .global .global ga = true)
    (hea : ∀ e ∈ es, wfAttrs (expectDefs ds dds) .ecu (.ecu e.name) e.attrs = true)
    (ps : List (WFrame × (Nat × Bool))) (hwf : ∀ p ∈ ps, p.1.wf p.2 = true) (hdist : ps.Pairwise fun p q => p.2 ≠ q.2)
    (hfa : ∀ p ∈ ps, p.1.wfA (expectDefs ds dds) = true) (i : Nat) (p : WFrame × (Nat × Bool)) (hp : ps[i]? = some p) :
    ∃ f : RFrame, (readFile (writeDbc es ts ds dds ga (ps.map (·.1)))).frames[i]? = some f ∧ f.key = p.2 ∧ f.size = p.1.bo.size ∧
      f.transmitters = p.1.senders ∧ f.sigs.length = p.1.sigs.length ∧
      ∀ (j : Nat) (s : WSig), p.1.sigs[j]? = some s → ∃ r : RSig, f.sigs[j]? = some r ∧ r.sg.name = s.sg.name ∧ sameMeaning r s := by
  have hframes := (C05o.dbc_file_roundtrip_line_for_line es hes ts hts ds hds dds hdds ga hga hea ps hwf hdist hfa).2.2.2.1
  refine ⟨p.1.expectA p.2, ?_, rfl, rfl, rfl, List.length_map _, ?_⟩
  · rw [hframes, List.getElem?_map, hp]; rfl
  · intro j s hs
    -- the signal read back: the written one with its four numbers as the reader renders them again
    refine ⟨{ sg := rereadSg s.sg, comment := s.comment, values := s.values, isFloat := s.isFloat, muxer := s.muxer,
              ranges := s.ranges, attrs := attrsOf s.attrs }, ?_, ?_⟩
    · show (p.1.sigs.map _)[j]? = _
      rw [List.getElem?_map, hs]; rfl
    · -- the projections are reduced first: unifying `(rereadSg t).factor` with `reread ?d` as it stands unfolds `reread`
      simp only [sameMeaning, rereadSg, C05.reread_value, and_self]

end CanVerif.C06b
