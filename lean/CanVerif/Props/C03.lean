import CanVerif.Model.Codec
import CanVerif.Proofs.Codec
import CanVerif.Props.C02
import CanVerif.Proofs.Mux
/-!
# C03 — multiplexed frames: exactly the active signals are decoded (and encoded)

Decoding a multiplexed frame returns the multiplexer, every signal not bound to a multiplexer
value, and exactly those bound signals whose multiplexer value (or, with extended multiplexing,
whose chain of value ranges through nested multiplexers) matches the selector values present in the
payload - each with its correct value - and no other signal.

Unbounded: any number of signals/groups, any nesting depth (the property's bound of 3 is not needed).
-/
namespace CanVerif.C03
open CanVerif

/-- a signal is decoded for selector value `sel`: unbound (static or the multiplexer itself) or bound to `sel` -/
def activeSimple (sel : Int) (s : Sig) : Bool := s.muxVal == some sel || s.muxVal == none

/-- Key set and values of a simply multiplexed frame: exactly the active signals, each with the value
of its own bit field (C01). `mx` is the frame's only multiplexer. -/
theorem decode_simple_keys (f : Frame) (data : List Nat) (mx : Sig)
    (hmx : f.sigs.filter (·.isMuxer) = [mx])
    (hcx : f.complexMux = false) (hct : f.isContainer = false)
    (hnd : (f.sigs.map (·.name)).Nodup) (hlen : data.length = f.size) :
    f.decode data = .ok ((f.sigs.filter (activeSimple (rawOf mx data))).map fun s => (s.name, rawOf s data)) := by
  obtain ⟨hmem, hmxm⟩ := List.mem_filter.mp (show mx ∈ f.sigs.filter (·.isMuxer) by rw [hmx]; simp)
  have hmux : f.isMultiplexed = true := List.any_eq_true.mpr ⟨mx, hmem, hmxm⟩
  unfold Frame.decode
  rw [unpack_ok f data hnd hct hlen]
  simp only [hcx, hct, hmux, hmx, Bool.false_eq_true, if_false, Bool.not_false, Bool.and_self, if_true,
    List.getLast?_singleton]
  rw [dictGet_map_nodup f.sigs (fun s => rawOf s data) hnd hmem]
  simp only
  rw [pickAll_eq_fold _ (fun s => rawOf s data) _ _
    (fun s hs => dictGet_map_nodup f.sigs _ hnd (List.mem_filter.mp hs).1)]
  have hnd' : ((f.sigs.filter (activeSimple (rawOf mx data))).map (·.name)).Nodup :=
    List.Nodup.sublist (List.Sublist.map _ List.filter_sublist) hnd
  exact congrArg Except.ok (foldl_dictSet_nodup _ (fun s => rawOf s data) [] hnd' (by simp))

/-- A selector value no group uses decodes to the multiplexer and the static signals only. -/
theorem decode_simple_unused_selector (f : Frame) (data : List Nat) (mx : Sig)
    (hmx : f.sigs.filter (·.isMuxer) = [mx])
    (hcx : f.complexMux = false) (hct : f.isContainer = false)
    (hnd : (f.sigs.map (·.name)).Nodup) (hlen : data.length = f.size)
    (hunused : ∀ s ∈ f.sigs, s.muxVal ≠ some (rawOf mx data)) :
    f.decode data = .ok ((f.sigs.filter (fun s => s.muxVal == none)).map fun s => (s.name, rawOf s data)) := by
  rw [decode_simple_keys f data mx hmx hcx hct hnd hlen]
  congr 2
  refine List.filter_congr fun s hs => ?_
  simp [activeSimple, hunused s hs]

/-- Range test: both boundaries are inclusive; outside every range is excluded. -/
theorem range_boundaries (s : Sig) (v : Int) (hne : s.muxValGrp ≠ []) :
    s.muxInRange (some v) = true ↔ ∃ r ∈ s.muxValGrp, r.1 ≤ v ∧ v ≤ r.2 := by
  have hl : s.muxValGrp.length > 0 := List.length_pos_iff.mpr hne
  simp [Sig.muxInRange, hl]

/-- Without ranges the single selector value decides. -/
theorem range_single_value (s : Sig) (v : Int) (he : s.muxValGrp = []) :
    s.muxInRange (some v) = true ↔ s.muxVal = some v := by
  simp [Sig.muxInRange, he]

/-- A signal is active in a payload: unbound signals (static ones and the root multiplexer) are
active; a signal bound to multiplexer `m` is active iff `m` is active and `m`'s value lies in one
of the signal's ranges.  (Driver/C03 runs the executable form, `Spec.activeNames` / `Spec.expectedDecode`.) -/
inductive Active (f : Frame) (data : List Nat) : Sig → Prop
  | unbound (s : Sig) : s ∈ f.sigs → s.muxerFor = none → Active f data s
  | bound (s m : Sig) : s ∈ f.sigs → m ∈ f.sigs → m.isMuxer = true → s.muxerFor = some m.name →
      Active f data m → s.muxInRange (some (rawOf m data)) = true → Active f data s

/-- well-formed extended-multiplexing bookkeeping (what the DBC reader builds from a well-formed
`SG_MUL_VAL_` description) -/
structure WfMuxTree (f : Frame) : Prop where
  nodup : (f.sigs.map (·.name)).Nodup
  /-- unbound signals carry no selector value -/
  unboundPlain : ∀ s ∈ f.sigs, s.muxerFor = none → s.muxVal = none
  /-- exactly one unbound signal is a multiplexer (the root) -/
  oneRoot : ∃ r ∈ f.sigs, r.isMuxer = true ∧ r.muxerFor = none ∧
              ∀ r' ∈ f.sigs, r'.isMuxer = true → r'.muxerFor = none → r' = r
  /-- every binding names a multiplexer of the frame -/
  parentIsMux : ∀ s ∈ f.sigs, ∀ m, s.muxerFor = some m → ∃ p ∈ f.sigs, p.name = m ∧ p.isMuxer = true
  /-- at most one nested multiplexer active per selector value of its parent -/
  oneNested : ∀ c ∈ f.sigs, ∀ c' ∈ f.sigs, c.isMuxer = true → c'.isMuxer = true →
      c.muxerFor = c'.muxerFor → c.muxerFor ≠ none →
      ∀ v : Int, c.muxInRange (some v) = true → c'.muxInRange (some v) = true → c = c'
  acyclic : ∃ rank : String → Nat, ∀ s ∈ f.sigs, ∀ m, s.muxerFor = some m → rank m < rank s.name

/-! ### `Active` versus the walk's reachability relation `Below` (CanVerif/Proofs/Mux.lean) -/

theorem Active.mem {f : Frame} {data : List Nat} {s : Sig} (h : Active f data s) : s ∈ f.sigs := by
  cases h with
  | unbound _ hs _ => exact hs
  | bound _ _ hs _ _ _ _ _ => exact hs

theorem active_of_below {f : Frame} {data : List Nat} (hwf : WfMuxTree f) {m s : Sig}
    (h : Below f data m s) (hm : Active f data m) : Active f data s := by
  induction h with
  | self _ _ => exact hm
  | step m c s hmm hc hcb hcin _ ih =>
    obtain ⟨p, hp, hpn, hpm⟩ := hwf.parentIsMux c hc m.name hcb
    obtain rfl : p = m := name_inj hwf.nodup hp hmm hpn
    exact ih (.bound c p hc hmm hpm hcb hm hcin)

theorem below_of_active {f : Frame} {data : List Nat} {root : Sig} (hroot : root ∈ f.sigs)
    (huniq : ∀ r' ∈ f.sigs, r'.isMuxer = true → r'.muxerFor = none → r' = root) {s : Sig}
    (h : Active f data s) :
    (s.muxerFor = none ∧ s.isMuxer = false) ∨ Below f data root s := by
  induction h with
  | unbound s hs hnone =>
    by_cases hmx : s.isMuxer = true
    · right; rw [huniq s hs hmx hnone]; exact .self root hroot
    · left; exact ⟨hnone, by simpa using hmx⟩
  | bound s m hs _ hmux hb _ hin ih =>
    rcases ih with ⟨_, h2⟩ | h
    · rw [hmux] at h2; cases h2
    · right; exact h.snoc hs hb hin

/-- Extended multiplexing: decoding terminates (the fuel `#signals + 1` of the model's walk suffices,
i.e. the Python `while` loop ends), succeeds, and returns exactly the active signals, each with the
value of its own bit field. -/
theorem decode_complex_keys (f : Frame) (data : List Nat) (hwf : WfMuxTree f)
    (hcx : f.complexMux = true) (hct : f.isContainer = false) (hlen : data.length = f.size) :
    ∃ d, f.decode data = .ok d ∧
      (∀ s ∈ f.sigs, (dictGet d s.name).isSome ↔ Active f data s) ∧
      (∀ s ∈ f.sigs, ∀ v, dictGet d s.name = some v → v = rawOf s data) ∧
      (∀ kv ∈ d, ∃ s ∈ f.sigs, s.name = kv.1) := by
  obtain ⟨root, hroot, hrmux, hrnone, huniq⟩ := hwf.oneRoot
  obtain ⟨rank, hrank⟩ := hwf.acyclic
  have hnd := hwf.nodup
  have hsub0 := getSubMultiplexer_root hroot hrmux hrnone (hwf.unboundPlain root hroot hrnone) huniq
  obtain ⟨vals, filt, hw, hfilt, hvals⟩ := walk_spec (data := data) hnd hwf.parentIsMux hwf.oneNested rank hrank
    (f.sigs.length + 1) root [] (f.filterForMultiplexer none none) hroot
    (Nat.le_trans (List.countP_le_length) (Nat.le_succ _))
  have hrootA : Active f data root := .unbound root hroot hrnone
  -- what has been collected: exactly the active signals
  have hfiltA : ∀ s, s ∈ filt ↔ Active f data s := by
    intro s
    rw [hfilt s, mem_filterForMultiplexer_none]
    constructor
    · rintro (⟨hs, _, h1, _⟩ | h)
      · exact .unbound s hs h1
      · exact active_of_below hwf h hrootA
    · exact fun h => (below_of_active hroot huniq h).imp_left fun ⟨h1, h2⟩ =>
        ⟨h.mem, hwf.unboundPlain s h.mem h1, h1, h2⟩
  have hlook : ∀ s ∈ filt, dictGet (f.sigs.map fun s => (s.name, rawOf s data)) s.name = some (rawOf s data) :=
    fun s hs => dictGet_map_nodup f.sigs _ hnd ((hfiltA s).mp hs).mem
  refine ⟨filt.foldl (fun a s => dictSet a s.name (rawOf s data)) vals, ?_, ?_⟩
  · unfold Frame.decode
    rw [unpack_ok f data hnd hct hlen]
    simp only [hcx, if_true, hsub0, hw]
    exact pickAll_eq_fold _ (fun s => rawOf s data) filt vals hlook
  -- every entry of the result is an active signal with its own value
  have hentries : ∀ kv ∈ filt.foldl (fun a s => dictSet a s.name (rawOf s data)) vals,
      ∃ s, Active f data s ∧ kv = (s.name, rawOf s data) := by
    intro kv hkv
    rcases fold_dictSet_mem _ _ _ hkv with h | ⟨s, hs, he⟩
    · rcases hvals kv h with h | ⟨m, hm, he⟩
      · simp at h
      · exact ⟨m, active_of_below hwf hm hrootA, he⟩
    · exact ⟨s, (hfiltA s).mp hs, he⟩
  refine ⟨?_, ?_, ?_⟩
  · intro s hs
    rw [dictGet_isSome_iff]
    constructor
    · rintro ⟨kv, hkv, hk⟩
      obtain ⟨s', hs', he⟩ := hentries kv hkv
      exact name_inj hnd hs'.mem hs (by rw [← hk, he]) ▸ hs'
    · intro h
      exact fold_dictSet_key _ _ _ (.inr ⟨s, (hfiltA s).mpr h, rfl⟩)
  · intro s hs v hv
    obtain ⟨s', hs', he⟩ := hentries _ (dictGet_some_mem hv)
    simp only [Prod.mk.injEq] at he
    have : s' = s := name_inj hnd hs'.mem hs he.1.symm
    rw [he.2, this]
  · intro kv hkv
    obtain ⟨s', hs', he⟩ := hentries kv hkv
    exact ⟨s', hs'.mem, by rw [he]⟩

/-- the assignment that actually reaches the bit placement: the supplied values of the multiplexer,
the unbound signals and the group selected by the supplied multiplexer value -/
def selectedData (f : Frame) (data : List (String × Int)) (mx : Sig) : List (String × Int) :=
  data.filter fun kv =>
    kv.1 == mx.name ||
    (f.sigs.any fun s => s.name == kv.1 && (s.muxVal == dictGet data mx.name || s.muxVal == none))

/-- Encoding a simply multiplexed frame writes only the multiplexer, the unbound signals and the
group selected by the supplied multiplexer value: every other supplied value is dropped before the
bits are placed (what is passed on is `selectedData f data mx`, written out).  `encode` takes the
first multiplexer of the frame, `decode` the last. -/
theorem encode_simple_only_group (f : Frame) (data : List (String × Int)) (mx : Sig)
    (hmx : f.sigs.find? (·.isMuxer) = some mx)
    (hcx : f.complexMux = false) (hct : f.isContainer = false) :
    f.encode data =
      f.signalsToBytes (data.filter fun kv =>
        kv.1 == mx.name ||
        (f.sigs.any fun s => s.name == kv.1 && (s.muxVal == dictGet data mx.name || s.muxVal == none))) := by
  have hmux : f.isMultiplexed = true := by
    unfold Frame.isMultiplexed
    exact List.any_eq_true.mpr ⟨mx, List.mem_of_find?_eq_some hmx, List.find?_some hmx⟩
  unfold Frame.encode
  simp only [hcx, hct, hmux, hmx, Bool.false_eq_true, if_false, if_true]
  congr 1
  apply List.filter_congr
  intro kv _
  rw [Bool.eq_iff_iff]
  simp only [Bool.or_eq_true, beq_iff_eq, List.contains_eq_mem, List.mem_cons, List.mem_map,
    List.mem_filter, decide_eq_true_eq, List.any_eq_true, Bool.and_eq_true]
  refine or_congr_right (exists_congr fun s => ?_)
  exact ⟨fun ⟨⟨hs, hp⟩, hn⟩ => ⟨hs, hn, hp⟩, fun ⟨hs, hn, hp⟩ => ⟨⟨hs, hp⟩, hn⟩⟩

/-- Groups that share payload bits never corrupt each other, and the encoded payload decodes back to
the supplied values: if the *selected* signals (multiplexer, unbound signals, selected group) are in
the frame, pairwise non-overlapping and get representable values - signals of other groups may
overlap them freely - then encoding succeeds with the frame's length, every selected supplied
signal reads back its value, and every bit outside the selected supplied signals is clear.
(Corollary of `encode_simple_only_group` and C02's `signalsToBytes` theorems.) -/
theorem decode_encode_mux (f : Frame) (data : List (String × Int)) (mx : Sig)
    (hmx : f.sigs.find? (·.isMuxer) = some mx)
    (hcx : f.complexMux = false) (hct : f.isContainer = false)
    (hdom : C02.SigDomain f (selectedData f data mx)) :
    ∃ bytes, f.encode data = .ok bytes ∧ bytes.length = f.size ∧
      (∀ s ∈ f.sigs, ∀ v, dictGet (selectedData f data mx) s.name = some v → rawOf s bytes = v) ∧
      (∀ k, (∀ s ∈ f.sigs, dictGet (selectedData f data mx) s.name ≠ none → ∀ i, i < s.size →
              sigAddr s.little s.start s.size i ≠ k) → payloadBit bytes k = false) := by
  -- `selectedData` unfolds to the filter in the statement of `encode_simple_only_group`
  have henc : f.encode data = f.signalsToBytes (selectedData f data mx) :=
    encode_simple_only_group f data mx hmx hcx hct
  obtain ⟨bytes, hb, hl, _⟩ := C02.signalsToBytes_total f (selectedData f data mx) hdom
  exact ⟨bytes, henc.trans hb, hl, C02.decode_signalsToBytes f _ hdom bytes hb,
    C02.signalsToBytes_clears_rest f _ hdom bytes hb⟩

/-! non-vacuity: the frame of tests/test_frame_decoding (simple) and a two-level tree -/
def exSimple : Frame :=
  { size := 2, sigs := [{ name := "mx", start := 0, size := 2, little := true, isMuxer := true },
                        { name := "a", start := 8, size := 8, little := true, muxVal := some 1, muxerFor := some "mx" },
                        { name := "b", start := 8, size := 4, little := true, muxVal := some 2, muxerFor := some "mx" },
                        { name := "st", start := 4, size := 4, little := true }] }
example : exSimple.decode [0x31, 0x7F] = .ok [("mx", 1), ("a", 0x7F), ("st", 3)] := by rfl

/-- a two-level tree satisfying `WfMuxTree` (the hypotheses of `decode_complex_keys` are satisfiable) -/
def exTree : Frame :=
  { size := 2, complexMux := true,
    sigs := [{ name := "m0", start := 0, size := 4, isMuxer := true },
             { name := "m1", start := 4, size := 4, isMuxer := true, muxerFor := some "m0", muxValGrp := [(1, 2)] },
             { name := "a", start := 8, size := 8, muxerFor := some "m1", muxValGrp := [(3, 3)] },
             { name := "b", start := 8, size := 4, muxerFor := some "m0", muxValGrp := [(0, 0)] },
             { name := "st", start := 12, size := 4 }] }

theorem exTree_wf : WfMuxTree exTree where
  nodup := by decide
  unboundPlain := by decide
  oneRoot := ⟨{ name := "m0", start := 0, size := 4, isMuxer := true }, by decide, rfl, rfl, by decide⟩
  parentIsMux := by
    show ∀ s ∈ exTree.sigs, ∀ m ∈ s.muxerFor, ∃ p ∈ exTree.sigs, p.name = m ∧ p.isMuxer = true
    decide
  oneNested := by
    -- `m1` is the only bound multiplexer
    have key : ∀ c ∈ exTree.sigs, c.isMuxer = true → c.muxerFor ≠ none → c.name = "m1" := by decide
    intro c hc c' hc' hm hm' he hne _ _ _
    exact name_inj (by decide) hc hc' ((key c hc hm hne).trans (key c' hc' hm' (he ▸ hne)).symm)
  acyclic := by
    refine ⟨fun n => if n = "m0" then 0 else if n = "m1" then 1 else 2, ?_⟩
    show ∀ s ∈ exTree.sigs, ∀ m ∈ s.muxerFor, _
    decide

example : exTree.decode [0x31, 0x7F] = .ok [("m0", 1), ("m1", 3), ("st", 7), ("a", 0x7F)] := by rfl
example : exTree.decode [0x30, 0x7F] = .ok [("m0", 0), ("st", 7), ("b", 0xF)] := by rfl

end CanVerif.C03
