import CanVerif.Props.C05m
/-!
# C05 — the core round trip with all attribute statements

`writeCoreF` is `writeCoreD` with the `BA_ .. BO_` lines of the frames and the `BA_ .. SG_` lines of the signals behind the
attributes of the matrix, as `dbc.dump` writes them (tied to the real file on every generated matrix, op `core`).  For
every matrix inside the envelope - any number of ECUs, definitions, defaults, frames, signals, attributes, comment lines - reading the
written file builds exactly the matrix: ECUs with comments and attribute dictionaries, definitions with defaults, the attribute
dictionary of the matrix, and the frames with senders, comment, attribute dictionary, signal groups and their signals, each with
comment, value table, float type, multiplexer binding and attribute dictionary.  The theorem is the one of Props/C05m without its last
clause; value tables and header are Props/C05n, C05o, the reader's post-processing Props/C05i, C05p-r.
-/
namespace CanVerif.C05l
open CanVerif CanVerif.Dbc CanVerif.Dbc.FileProofs

/-- the round trip with the attributes of frames and signals as well -/
theorem dbc_roundtrip_core_with_all_attributes (es : List WEcu) (hes : wfEcus es = true) (ds : List DefLine) (hds : wfDefs ds = true)
    (dds : List DefDefLine) (hdds : wfDefaults ds dds = true)
    (ga : List (Str × Str)) (hga : wfAttrs (expectDefs ds dds) .global .global ga = true)
    (hea : ∀ e ∈ es, wfAttrs (expectDefs ds dds) .ecu (.ecu e.name) e.attrs = true)
    (ps : List (WFrame × (Nat × Bool))) (hwf : ∀ p ∈ ps, p.1.wf p.2 = true) (hdist : ps.Pairwise fun p q => p.2 ≠ q.2)
    (hfa : ∀ p ∈ ps, p.1.wfA (expectDefs ds dds) = true) :
    (readFile (writeCoreF es ds dds ga (ps.map (·.1)))).ecus = es.map WEcu.expectA ∧
    (readFile (writeCoreF es ds dds ga (ps.map (·.1)))).defs = expectDefs ds dds ∧
    (readFile (writeCoreF es ds dds ga (ps.map (·.1)))).attrs = attrsOf ga ∧
    (readFile (writeCoreF es ds dds ga (ps.map (·.1)))).frames = ps.map (fun p => p.1.expectA p.2) ∧
    (readFile (writeCoreF es ds dds ga (ps.map (·.1)))).pending = none := by
  obtain ⟨hecus, hdefs, hattrs, hframes, hpending, _⟩ :=
    CanVerif.C05m.dbc_whole_matrix_roundtrip_without_line_error es hes ds hds dds hdds ga hga hea ps hwf hdist hfa
  exact ⟨hecus, hdefs, hattrs, hframes, hpending⟩

/-- the sections behind the attribute statements (value tables, float types, signal groups, multiplexer bindings) do not look at
attributes: they do to a frame with other attribute dictionaries what they do to the frame -/
theorem later_sections_ignore_attributes (its : List Item) (h : ∀ it ∈ its, isCItem it = true) (A : List (Str × Str))
    (B : Str → List (Str × Str)) (F : RFrame) :
    its.foldl (fun acc it => itemUpd it acc) (ovl A B F) = ovl A B (its.foldl (fun acc it => itemUpd it acc) F) :=
  fold_ovl its h A B F

/-- the matrix after attribute statements of frames and signals whose values are accepted: only frames change, each through the
statements that name its identifier -/
theorem frames_after_attribute_statements (its : List Item) (m : RMatrix) (hu : KeysUnique m)
    (hall : ∀ it ∈ its, isFrameBa it = true ∧ baOk m.defs it = true) :
    (its.foldl applyItem m).frames = m.frames.map (fun f => its.foldl (fun acc it => itemUpdA it acc) f) ∧
    (its.foldl applyItem m).defs = m.defs ∧ (its.foldl applyItem m).ecus = m.ecus ∧ (its.foldl applyItem m).attrs = m.attrs :=
  ba_fold its m hu hall

/-! ## non-vacuity -/

example : exFramesA.all (fun p => p.1.wf p.2 && p.1.wfA (expectDefs CanVerif.C05k.exDefs CanVerif.C05k.exDefaults)) = true :=
  List.all_eq_true.mpr fun p hp => Bool.and_eq_true_iff.mpr ⟨exFramesA_wf p hp, exFramesA_attrs_wf p hp⟩
example : (readFile (writeCoreF CanVerif.C05k.exEcusA CanVerif.C05k.exDefs CanVerif.C05k.exDefaults CanVerif.C05k.exGlobal (exFramesA.map (·.1)))).frames =
    exFramesA.map (fun p => p.1.expectA p.2) :=
  (dbc_roundtrip_core_with_all_attributes _ CanVerif.C05k.exEcusA_wf _ CanVerif.C05k.exDefs_wf _ CanVerif.C05k.exDefaults_wf _ CanVerif.C05k.exGlobal_wf CanVerif.C05k.exEcusA_attrs_wf
    _ exFramesA_wf exFramesA_distinct exFramesA_attrs_wf).2.2.2.1
example : ((readFile (writeCoreF CanVerif.C05k.exEcusA CanVerif.C05k.exDefs CanVerif.C05k.exDefaults CanVerif.C05k.exGlobal (exFramesA.map (·.1)))).frames.map (·.attrs)) =
    [[("GenMsgCycleTime".toList, "100".toList)], []] := by
  rw [(dbc_roundtrip_core_with_all_attributes _ CanVerif.C05k.exEcusA_wf _ CanVerif.C05k.exDefs_wf _ CanVerif.C05k.exDefaults_wf _ CanVerif.C05k.exGlobal_wf CanVerif.C05k.exEcusA_attrs_wf
    _ exFramesA_wf exFramesA_distinct exFramesA_attrs_wf).2.2.2.1]
  unfold exFramesA CanVerif.C05h.exSg; lit_chars; decide +kernel
example : (readFile (writeCoreF CanVerif.C05k.exEcusA CanVerif.C05k.exDefs CanVerif.C05k.exDefaults CanVerif.C05k.exGlobal (exFramesA.map (·.1)))).errors = 0 :=
  (CanVerif.C05m.dbc_whole_matrix_roundtrip_without_line_error _ CanVerif.C05k.exEcusA_wf _ CanVerif.C05k.exDefs_wf _ CanVerif.C05k.exDefaults_wf _ CanVerif.C05k.exGlobal_wf CanVerif.C05k.exEcusA_attrs_wf
    _ exFramesA_wf exFramesA_distinct exFramesA_attrs_wf).2.2.2.2.2

end CanVerif.C05l
