import CanVerif.Model.DbcText
import CanVerif.Spec.DbcRT
import CanVerif.Proofs.DbcText
import CanVerif.Proofs.DbcVal
import CanVerif.Props.C20
import CanVerif.Model.DbcStart
import CanVerif.Props.C04
/-!
# C05 - DBC round trip is lossless and its output is a fixed point: the frame section

For every list of frames with their signals inside the envelope (`wfBlock`: identifier-style names, a unit
without quote, at least one receiver written), the lines the writer emits (`writeFrames`) are read back by the
line reader (`readFrames`, the dispatcher of Model/DbcLines.lean instantiated with the `BO_`/`SG_` statement
parsers) as the same frames and signals - names, multiplex tags, positions, widths, byte order, sign, unit,
receivers identical, numbers with the same value (`reread`) -, no line is rejected, and writing what was read
gives the same lines again.  Statement level: `SG_`, `BO_`, `VAL_` (with escaped quotes), multiplex tags.
The same holds when malformed lines are scattered through the file (C20's theorem instantiated).
Last part: the start value of a signal (`GenSigStartValue`) survives the round trip (Model/DbcStart.lean).
-/
namespace CanVerif.C05
open CanVerif CanVerif.Dbc

/-- a rendered number is read as the decimal itself, or - when the rendering ended in `.0` - as the same value
without that zero -/
theorem reread_cases (d : Dec) :
    reread d = d ∨ (d.exp = -1 ∧ d.coeff % 10 = 0 ∧ reread d = ⟨d.neg, d.coeff / 10, 0⟩) :=
  reread_cases' d

/-- the number that was read has the same value -/
theorem reread_value (d : Dec) : SpecRT.decEq (reread d) d = true :=
  decEq_reread d

/-- rendering the number that was read gives the same text (the second export prints the same digits) -/
theorem reread_render (d : Dec) : formatFloat (reread d) = formatFloat d :=
  formatFloat_reread d

theorem tag_roundtrip (mv : Option Nat) (m : Bool) : fieldsOf (tagOf mv m) = (mv, m, mv.isSome && m) := by
  cases mv <;> cases m <;> rfl

/-- an `SG_` line is read as the signal it was rendered from -/
theorem sg_line_roundtrip (s : SgLine) (h : wfSg s = true) :
    parseSg (stripWs (renderSg s)) = some (rereadSg s) :=
  parseSg_renderSg s h

/-- ... which is the same signal in the sense of the specification -/
theorem sg_line_same (s : SgLine) (h : wfSg s = true) :
    ∃ q, parseSg (stripWs (renderSg s)) = some q ∧ SpecRT.sgSame q s = true :=
  ⟨rereadSg s, parseSg_renderSg s h, sgSame_rereadSg s⟩

theorem bo_line_roundtrip (b : BoLine) (h : wfBo b = true) : parseBo (stripWs (renderBo b)) = some b :=
  parseBo_renderBo b h

/-- rendering what was read gives the same line -/
theorem sg_line_fixed_point (s : SgLine) : renderSg (rereadSg s) = renderSg s :=
  renderSg_rereadSg s

set_option linter.unusedVariables false in
theorem unescape_escape (t : Str) (h : wfText t = true) : unescapeQuotes (escapeQuotes t) = t :=
  Dbc.ValProofs.unescape_escape t

/-- a `VAL_` line (value texts may contain quotes) is read as the table it was rendered from -/
theorem val_line_roundtrip (v : ValLine) (h : wfVal v = true) (hne : v.entries ≠ []) : parseVal (stripWs (renderVal v)) = some v :=
  Dbc.ValProofs.parseVal_renderVal v h hne

/-- the excluded case: a `VAL_` statement without entries (the writer never emits one) is not read back -/
theorem val_empty_not_read : parseVal (stripWs (renderVal ⟨5, "abc".toList, []⟩)) = none :=
  Dbc.ValProofs.val_empty_not_read

/-! ## the frame section of a file -/

/-- reading the written frame section gives the frames and signals back -/
theorem frames_roundtrip (bs : List Block) (h : bs.all wfBlock = true) :
    readFrames (writeFrames bs) = bs.map rereadBlock := by
  have := loadLines_frames [] bs (by simpa using h)
  simpa [readFrames] using this

theorem frames_same (bs : List Block) (h : bs.all wfBlock = true) :
    SpecRT.blocksSame (readFrames (writeFrames bs)) bs = true := by
  rw [frames_roundtrip bs h]
  exact blocksSame_reread bs

/-- the second export of the frame section is identical to the first -/
theorem frames_fixed_point (bs : List Block) (h : bs.all wfBlock = true) :
    writeFrames (readFrames (writeFrames bs)) = writeFrames bs := by
  rw [frames_roundtrip bs h]
  exact writeFrames_reread bs

/-- no line of the written frame section is rejected: every line is empty or a known statement whose pattern matches -/
theorem no_line_errors (bs : List Block) (h : bs.all wfBlock = true) :
    ∀ l ∈ writeFrames bs, stripWs l = [] ∨
      (classify l ≠ .unknown ∧ framesReader.matchesPattern (classify l) l = true) :=
  writeFrames_line_accepted bs (by simpa using h)

/-- malformed lines anywhere in the file do not change what is read (C20 instantiated with this reader) -/
theorem frames_roundtrip_with_bad_lines (bs : List Block) (h : bs.all wfBlock = true) (isBad : Str → Bool)
    (hbad : ∀ b, isBad b = true → C20.BadLine framesReader b) (lines : List Str)
    (hl : lines.filter (fun l => !isBad l) = writeFrames bs) :
    readFrames lines = bs.map rereadBlock := by
  unfold readFrames
  rw [C20.bad_lines_ignored framesReader isBad hbad [] lines, hl]
  exact frames_roundtrip bs h

/-! ## the start-value carrier (`GenSigStartValue`): initial values survive the round trip

(Model/DbcStart.lean: what the writer emits and what the reader assumes, after fixes f45ef57 and ca8ce77; the scaling
arithmetic and its exactness conditions are those of C04.) -/


/-- the exactness conditions of C04 (28 significant digits suffice for the products and sums involved) -/
def ExactAt (s : ScaleSig) (r : Int) : Prop :=
  s.factor.coeff ≠ 0 ∧ nd (r.natAbs * s.factor.coeff) ≤ PREC ∧
  nd (Spec.physOf r (C04.exOf s.factor) (C04.exOf s.offset)).m.natAbs ≤ PREC ∧ nd s.offset.coeff ≤ PREC ∧
  nd (Spec.Ex.add (Spec.physOf r (C04.exOf s.factor) (C04.exOf s.offset)) (Spec.Ex.neg (C04.exOf s.offset))).m.natAbs ≤ PREC

theorem start_value_roundtrip (g : StartSig) (dflt : Option Dec) (r : Int)
    (hinit : g.initial = g.s.raw2phys r)
    (hin : Dec.le g.min g.initial = true ∧ Dec.le g.initial g.max = true)
    (hex : ExactAt g.s r) :
    g.readStart (g.writeStart dflt) dflt = g.initial := by
  obtain ⟨hf, h1, h2, h3, h4⟩ := hex
  have hraw : g.startRaw = r := by
    unfold StartSig.startRaw StartSig.physDefault
    simp only [hin.1, hin.2, Bool.and_self, if_true]
    rw [hinit]
    exact C04.phys2raw_raw2phys g.s r hf h1 h2 h3 h4
  unfold StartSig.writeStart StartSig.readStart
  simp only [hraw]
  by_cases hc : (r != g.assumed dflt || (dflt.isNone && r != 0)) = true
  · simp only [hc, if_true, Option.getD_some]; exact hinit.symm
  · simp only [hc, Bool.false_eq_true, if_false, Option.getD_none]
    have : r = g.assumed dflt := by simpa using (Bool.or_eq_false_iff.mp (Bool.eq_false_iff.mpr hc)).1
    rw [← this]; exact hinit.symm

def exDefault : StartSig := { s := { size := 8, signed := true, factor := ⟨false, 1, 0⟩, offset := ⟨false, 0, 0⟩ }, min := ⟨true, 128, 0⟩, max := ⟨false, 127, 0⟩, initial := ⟨false, 5, 0⟩ }
def exRawZero : StartSig := { s := { size := 1, signed := false, factor := ⟨true, 5, -1⟩, offset := ⟨false, 15, -1⟩ }, min := ⟨false, 10, -1⟩, max := ⟨false, 15, -1⟩, initial := ⟨false, 15, -1⟩ }

/-- before fix ca8ce77: with a default on the definition nothing was written and the initial value 5 came back as 0 -/
theorem old_writer_loses_start_value_with_default :
    exDefault.readStart (exDefault.writeStartOld (some zeroDec)) (some zeroDec) = ⟨false, 0, 0⟩ ∧
    exDefault.readStart (exDefault.writeStart (some zeroDec)) (some zeroDec) = ⟨false, 5, 0⟩ := by
  decide +kernel

/-- before fix f45ef57: a raw start value 0 was never written although the reader assumes the raw value of the minimum when
physical 0 is outside the limits: initial value 1.5 came back as 1.0 -/
theorem old_writer_loses_raw_zero :
    exRawZero.readStart (exRawZero.writeStartOld none) none = ⟨false, 10, -1⟩ ∧
    exRawZero.readStart (exRawZero.writeStart none) none = ⟨false, 15, -1⟩ := by
  decide +kernel

/-! ## non-vacuity -/

def exSg0 : SgLine := { (default : SgLine) with name := "sig_1".toList, tag := .val 5, start := 34, size := 1 }
def exSg1 : SgLine := { exSg0 with factor := ⟨true, 5, -1⟩, offset := ⟨false, 15, -1⟩, min := ⟨false, 10, -1⟩, max := ⟨false, 15, -1⟩ }
def exSg : SgLine := { exSg1 with unit := "km/h".toList, receivers := ["Vector__XXX".toList, "AB".toList] }

example : wfSg exSg = true := by unfold exSg exSg1 exSg0; lit_chars; decide +kernel
example : String.ofList (renderSg exSg) = " SG_ sig_1 m5 : 34|1@0+ (-0.5,1.5) [1|1.5] \"km/h\" Vector__XXX,AB" := by
  apply String.toList_injective
  unfold exSg exSg1 exSg0 renderSg renderTag
  lit_chars
  decide +kernel
example : reread ⟨false, 10, -1⟩ = ⟨false, 1, 0⟩ := by decide +kernel

end CanVerif.C05
