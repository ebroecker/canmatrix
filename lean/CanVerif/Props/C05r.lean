import CanVerif.Proofs.DbcPost
import CanVerif.Props.C05i
import CanVerif.Props.C05o
/-!
# C05 — the ECU list after the post-processing

`update_ecu_list` adds every referenced ECU that is not listed, then the placeholder `Vector__XXX` is removed.  When every sender and
receiver of the file is a listed ECU (by its restored long name) or the placeholder, the ECU list the reader returns is exactly the list
of the `BU_:` line with the long names restored - nothing added, nothing lost, the order kept.
-/
namespace CanVerif.C05r
open CanVerif CanVerif.Dbc

def ph : Str := "Vector__XXX".toList

/-- the list is the listed ECUs, possibly with the placeholder behind them -/
def Shape (ecus : List Str) (s : List Str) : Prop := s = ecus ∨ s = ecus ++ [ph]

theorem addEcu_shape (ecus s : List Str) (r : Str) (hclean : ∀ e ∈ ecus, stripWs e = e) (hs : Shape ecus s) (hr : r ∈ ecus ∨ r = ph) :
    Shape ecus (addEcu s r) := by
  have hph : stripWs ph = ph := by decide
  unfold addEcu
  rcases hs with hs | hs
  · subst hs
    rcases hr with hr | hr
    · have : s.any (fun e => stripWs e == r) = true := List.any_eq_true.mpr ⟨r, hr, by simp [hclean r hr]⟩
      rw [if_pos this]; exact Or.inl rfl
    · subst hr
      by_cases h : s.any (fun e => stripWs e == ph) = true
      · rw [if_pos h]; exact Or.inl rfl
      · rw [if_neg h]; exact Or.inr rfl
  · subst hs
    have hany : (ecus ++ [ph]).any (fun e => stripWs e == r) = true := by
      rcases hr with hr | hr
      · exact List.any_eq_true.mpr ⟨r, by simp [hr], by simp [hclean r hr]⟩
      · subst hr; exact List.any_eq_true.mpr ⟨ph, by simp, by simp [hph]⟩
    rw [if_pos hany]; exact Or.inr rfl

theorem foldl_addEcu_shape (ecus : List Str) (rs : List Str) (s : List Str) (hclean : ∀ e ∈ ecus, stripWs e = e) (hs : Shape ecus s)
    (hr : ∀ r ∈ rs, r ∈ ecus ∨ r = ph) : Shape ecus (rs.foldl addEcu s) := by
  induction rs generalizing s with
  | nil => exact hs
  | cons r rest ih =>
    simp only [List.foldl_cons]
    exact ih _ (addEcu_shape ecus s r hclean hs (hr r (by simp))) (fun x hx => hr x (List.mem_cons_of_mem _ hx))

/-- **the ECU list of the result**: the listed ECUs under their restored names, when every reference is a listed ECU or the placeholder -/
theorem post_ecus (m : RMatrix)
    (hclean : ∀ e ∈ m.ecus, stripWs (longName "SystemNodeLongSymbol" e.name e.attrs).1 = (longName "SystemNodeLongSymbol" e.name e.attrs).1)
    (hnoph : ∀ e ∈ m.ecus, (longName "SystemNodeLongSymbol" e.name e.attrs).1 ≠ ph)
    (href : ∀ f ∈ m.frames, (∀ r ∈ f.transmitters, r ∈ m.ecus.map (fun e => (longName "SystemNodeLongSymbol" e.name e.attrs).1) ∨ r = ph) ∧
      ∀ s ∈ f.sigs, ∀ r ∈ s.sg.receivers, r ∈ m.ecus.map (fun e => (longName "SystemNodeLongSymbol" e.name e.attrs).1) ∨ r = ph) :
    (postProcess m).ecus = m.ecus.map fun e => (longName "SystemNodeLongSymbol" e.name e.attrs).1 := by
  have hcl : ∀ x ∈ (m.ecus.map fun e => (longName "SystemNodeLongSymbol" e.name e.attrs).1), stripWs x = x :=
    List.forall_mem_map.mpr hclean
  have hshape : Shape (m.ecus.map fun e => (longName "SystemNodeLongSymbol" e.name e.attrs).1) (postNames1 m) := by
    rw [postNames1_eq]
    apply foldl_addEcu_shape _ _ _ hcl (Or.inl rfl)
    intro r hr
    obtain ⟨f2, hf2, hr⟩ := List.mem_flatMap.mp hr
    simp only [postFrames2, postFrames1, List.mem_map] at hf2
    obtain ⟨f1, ⟨f0, hf0, rfl⟩, rfl⟩ := hf2
    rcases List.mem_append.mp hr with hr | hr
    · exact (href f0 hf0).1 r hr
    · simp only [List.mem_flatMap, List.mem_map] at hr
      obtain ⟨s2, ⟨s1, ⟨s0, hs0, rfl⟩, rfl⟩, hr⟩ := hr
      exact (href f0 hf0).2 s0 hs0 r hr
  have hnot : ph ∉ (m.ecus.map fun e => (longName "SystemNodeLongSymbol" e.name e.attrs).1) := fun h =>
    let ⟨e, he, heq⟩ := List.mem_map.mp h
    hnoph e he heq
  have hfilter : ∀ (l : List Str), ph ∉ l → l.filter (fun n => n != ph) = l := fun l hl =>
    List.filter_eq_self.mpr fun a ha => bne_iff_ne.mpr fun e => hl (e ▸ ha)
  have hres : (postProcess m).ecus = (postNames1 m).filter (fun n => n != ph) := rfl
  rw [hres]
  rcases hshape with h | h
  · rw [h]; exact hfilter _ hnot
  · rw [h, List.filter_append, hfilter _ hnot]
    have : [ph].filter (fun n => n != ph) = [] := by decide
    rw [this, List.append_nil]

/-- **the ECUs of the file come back**: through the file as `dump` writes it and the post-processing of the reader, the ECU list is the
list that was written - when no ECU carries a long-name attribute, none is called like the placeholder, and every sender and receiver is
a listed ECU or the placeholder -/
theorem dbc_file_keeps_ecus (es : List WEcu) (hes : wfEcus es = true) (ts : List WTable) (hts : wfTables ts = true)
    (ds : List DefLine) (hds : wfDefs ds = true) (dds : List DefDefLine) (hdds : wfDefaults ds dds = true)
    (ga : List (Str × Str)) (hga : wfAttrs (expectDefs ds dds) .global .global ga = true)
    (hea : ∀ e ∈ es, wfAttrs (expectDefs ds dds) .ecu (.ecu e.name) e.attrs = true)
    (ps : List (WFrame × (Nat × Bool))) (hwf : ∀ p ∈ ps, p.1.wf p.2 = true) (hdist : ps.Pairwise fun p q => p.2 ≠ q.2)
    (hfa : ∀ p ∈ ps, p.1.wfA (expectDefs ds dds) = true)
    (hnolong : ∀ e ∈ es, lookupAttr (attrsOf e.attrs) "SystemNodeLongSymbol".toList = none)
    (hnoph : ∀ e ∈ es, e.name ≠ ph)
    (href : ∀ p ∈ ps, (∀ r ∈ p.1.senders, r ∈ es.map (·.name) ∨ r = ph) ∧
      ∀ s ∈ p.1.sigs, ∀ r ∈ s.sg.receivers, r ∈ es.map (·.name) ∨ r = ph) :
    (postProcess (readFile (writeDbc es ts ds dds ga (ps.map (·.1))))).ecus = es.map (·.name) := by
  have hrt := C05o.dbc_file_roundtrip_line_for_line es hes ts hts ds hds dds hdds ga hga hea ps hwf hdist hfa
  have hecus := hrt.1
  have hframes := hrt.2.2.2.1
  have hname : ∀ e ∈ es, (longName "SystemNodeLongSymbol" (WEcu.expectA e).name (WEcu.expectA e).attrs).1 = e.name := by
    intro e he
    have := CanVerif.C05i.no_long_name "SystemNodeLongSymbol" e.name (attrsOf e.attrs) (hnolong e he)
    simp only [WEcu.expectA]
    rw [this]
  have hnames : (readFile (writeDbc es ts ds dds ga (ps.map (·.1)))).ecus.map
      (fun e => (longName "SystemNodeLongSymbol" e.name e.attrs).1) = es.map (·.name) := by
    rw [hecus, List.map_map]
    exact List.map_congr_left hname
  have hident : ∀ e ∈ es, isIdent e.name = true := by
    intro e he
    simp only [wfEcus, Bool.and_eq_true, List.all_eq_true, decide_eq_true_eq] at hes
    exact (hes.1 e he).1.1
  rw [← hnames]
  apply post_ecus
  · rw [hecus]
    exact List.forall_mem_map.mpr fun e he => by rw [hname e he]; exact CanVerif.Dbc.stripWs_ident (hident e he)
  · rw [hecus]
    exact List.forall_mem_map.mpr fun e he => by rw [hname e he]; exact hnoph e he
  · intro f hf
    rw [hframes] at hf
    obtain ⟨p, hp, rfl⟩ := List.mem_map.mp hf
    rw [hnames]
    refine ⟨(href p hp).1, ?_⟩
    intro s hs r hr
    simp only [WFrame.expectA, List.mem_map] at hs
    obtain ⟨w, hw, rfl⟩ := hs
    -- reduced here: left to `exact`, `(rereadSg w.sg).receivers = w.sg.receivers` is tried as `rereadSg w.sg = w.sg` first
    simp only [rereadSg] at hr
    exact (href p hp).2 w hw r hr

/-- closed instance: the placeholder and a listed receiver; an unlisted receiver is added (the hypothesis is needed) -/
example : (postProcess (readFile (["BU_: ECU_A ECU_B", "BO_ 291 F: 8 ECU_A", " SG_ s1 : 0|8@1+ (1,0) [0|0] \"\" Vector__XXX,ECU_B", ""].map String.toList))).ecus =
    ["ECU_A".toList, "ECU_B".toList] := by
  lit_chars; decide +kernel
example : (postProcess (readFile (["BU_: ECU_A", "BO_ 291 F: 8 ECU_A", " SG_ s1 : 0|8@1+ (1,0) [0|0] \"\" ECU_C", ""].map String.toList))).ecus =
    ["ECU_A".toList, "ECU_C".toList] := by
  lit_chars; decide +kernel

end CanVerif.C05r
