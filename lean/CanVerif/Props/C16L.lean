import CanVerif.Model.Layout
import CanVerif.Props.C16
/-!
# C16 — `compress` on Intel frames (`_compress_little`): no overlap, no unused bit before a signal, order kept, termination

For Intel signals `start` is the position of the least significant bit, positions counted from the least significant bit of
byte 0 (the numbering in which an Intel signal occupies `start … start + size - 1`).  `_compress_little` scans the usage map
byte by byte and inside a byte from index 7 down to 0, which is ascending order in that numbering.
-/
namespace CanVerif.C16L
open CanVerif CanVerif.C16

/-- a frame `_compress_little` is meant for: Intel signals only, each with a name of its own and at least one bit, inside the
frame, no two of them on the same bit (`occ` is `start ≤ j < start + size`, here in the Intel numbering).
Written out, this is `Packable true f` of Proofs/Compress, and is handed to `compress_packs true` as such. -/
def compressibleLittle (f : Frame) : Prop :=
  (∀ s ∈ f.sigs, s.little = true ∧ 1 ≤ s.size ∧ s.start + s.size ≤ 8 * f.size) ∧ (f.sigs.map (·.name)).Nodup ∧
  (∀ a ∈ f.sigs, ∀ b ∈ f.sigs, a.name ≠ b.name → ∀ j, ¬ (occ a j ∧ occ b j))

/-- compressing creates no overlap -/
theorem compress_little_no_overlap (f g : Frame) (hf : compressibleLittle f) (h : f.compress = .ok g) :
    ∀ a ∈ g.sigs, ∀ b ∈ g.sigs, a.name ≠ b.name → ∀ j, ¬ (occ a j ∧ occ b j) := by
  obtain ⟨⟨-, -, hov⟩, -⟩ := compress_packs true f g hf h
  exact hov

/-- ... and leaves no unused bit before a signal: every position below a signal's least significant bit belongs to some signal -/
theorem compress_little_no_gap (f g : Frame) (hf : compressibleLittle f) (h : f.compress = .ok g) :
    ∀ s ∈ g.sigs, ∀ j, j < s.start → ∃ t ∈ g.sigs, occ t j := by
  obtain ⟨-, hnogap, -⟩ := compress_packs true f g hf h
  exact hnogap

/-- ... and keeps the relative order of the signals in the payload -/
theorem compress_little_keeps_order (f g : Frame) (hf : compressibleLittle f) (h : f.compress = .ok g)
    (a b : Sig) (ha : a ∈ f.sigs) (hb : b ∈ f.sigs) (hab : a.start < b.start) :
    ∀ a' ∈ g.sigs, ∀ b' ∈ g.sigs, a'.name = a.name → b'.name = b.name → a'.start < b'.start := by
  obtain ⟨-, -, -, hord⟩ := compress_packs true f g hf h
  exact hord a ha b hb hab

/-- ... keeps every signal's width, byte order and name, and the frame's length -/
theorem compress_little_keeps_shape (f g : Frame) (hf : compressibleLittle f) (h : f.compress = .ok g) :
    g.size = f.size ∧ g.sigs.map (fun s => (s.name, s.size, s.little)) = f.sigs.map (fun s => (s.name, s.size, s.little)) := by
  -- an instance of `compress_shape`, like `C16.compress_preserves`; it holds without `hf`
  have _ := hf
  exact (compress_shape (fun s => (s.name, s.size, s.little)) (fun _ _ => rfl) f g h).symm

/-- the loop always ends within the fuel of the model (the Python `while gap_found` terminates) -/
theorem compress_little_terminates (f : Frame) (hf : compressibleLittle f) : ∃ g, f.compress = .ok g :=
  compress_terminates true f hf

/-! non-vacuity -/
def exL : Frame := { size := 3, sigs := [{ name := "b", start := 14, size := 2 }, { name := "a", start := 4, size := 8 }, { name := "c", start := 20, size := 3 }] }
example : (exL.compress.toOption.map fun g => g.sigs.map (·.start)) = some [8, 0, 10] := by decide +kernel

end CanVerif.C16L
