import CanVerif.Model.Codec
import CanVerif.Spec.Bits
import CanVerif.Proofs.Codec
import CanVerif.Proofs.Encode
/-!
# C02 — encoding is the exact inverse of decoding and writes only its own bits

For a frame whose *supplied* signals do not overlap, encoding any assignment of representable raw
values yields a payload of exactly the frame's length from which each supplied signal decodes back
to the supplied value, with every bit that belongs to no supplied signal cleared.  Re-encoding the
values decoded from an arbitrary payload reproduces that payload on every bit covered by a signal.

The core theorems are about `Frame.signalsToBytes` (domain `SigDomain`: only the signals that are
actually supplied have to be inside the frame and pairwise disjoint, so they also apply to the
per-multiplex-group call made by `Frame.encode` for multiplexed frames); the theorems about
`Frame.encode` for plain frames (domain `EncDomain`) are corollaries.

Unbounded: any frame length, any number of signals, any widths.
-/
namespace CanVerif.C02
open CanVerif

/-- pairwise non-overlapping signals (no physical payload address belongs to two signals) -/
def disjointSigs (sigs : List Sig) : Prop :=
  sigs.Pairwise fun s t => ∀ i j, i < s.size → j < t.size →
    sigAddr s.little s.start s.size i ≠ sigAddr t.little t.start t.size j

/-- raw values inside the signal's raw range (float signals carry their bit pattern); unfolds to
`rangeOK` of Proofs/Encode, and each is used for the other below -/
def Sig.inRange (s : Sig) (v : Int) : Prop :=
  if s.isFloat then 0 ≤ v ∧ v < (2:Int) ^ s.size
  else if s.signed then -((2:Int) ^ (s.size - 1)) ≤ v ∧ v < (2:Int) ^ (s.size - 1)
  else 0 ≤ v ∧ v < (2:Int) ^ s.size

/-- the domain of the property for one frame and one assignment, for `signalsToBytes`:
the structural requirements concern the supplied signals only -/
structure SigDomain (f : Frame) (data : List (String × Int)) : Prop where
  nodup : (f.sigs.map (·.name)).Nodup
  inframe : ∀ s ∈ f.sigs, dictGet data s.name ≠ none → inFrame s f.size
  disjoint : disjointSigs (f.sigs.filter fun s => (dictGet data s.name).isSome)
  representable : ∀ s ∈ f.sigs, ∀ v, dictGet data s.name = some v → Sig.inRange s v

/-- the domain of the property for `Frame.encode`: a plain frame -/
structure EncDomain (f : Frame) (data : List (String × Int)) : Prop extends SigDomain f data where
  plain : f.complexMux = false ∧ f.isMultiplexed = false ∧ f.isContainer = false

theorem SigDomain.hyp {f : Frame} {data : List (String × Int)} (h : SigDomain f data) :
    StbHyp f.size f.sigs data where
  ok := by
    intro s hs v hv
    have hin := h.inframe s hs (by rw [hv]; simp)
    exact ⟨hin.1, hin.2, h.representable s hs v hv⟩
  disjoint := List.pairwise_filter.1 h.disjoint

theorem encode_plain (f : Frame) (data : List (String × Int))
    (hplain : f.complexMux = false ∧ f.isMultiplexed = false ∧ f.isContainer = false) :
    f.encode data = f.signalsToBytes data := by
  obtain ⟨h1, h2, h3⟩ := hplain
  unfold Frame.encode
  simp [h1, h2, h3]

/-- Encoding representable values never fails and yields exactly the frame's length, every byte < 256. -/
theorem signalsToBytes_total (f : Frame) (data : List (String × Int)) (h : SigDomain f data) :
    ∃ bytes, f.signalsToBytes data = .ok bytes ∧ bytes.length = f.size ∧ ∀ b ∈ bytes, b < 256 :=
  ⟨encoded f data, signalsToBytes_ok h.hyp, encoded_length f data, encoded_lt f data⟩

/-- Each supplied signal decodes back to the supplied value. -/
theorem decode_signalsToBytes (f : Frame) (data : List (String × Int)) (h : SigDomain f data)
    (bytes : List Nat) (henc : f.signalsToBytes data = .ok bytes)
    (s : Sig) (hs : s ∈ f.sigs) (v : Int) (hv : dictGet data s.name = some v) :
    rawOf s bytes = v := by
  obtain rfl := Except.ok.inj ((signalsToBytes_ok h.hyp).symm.trans henc)
  have hin : inFrame s (encoded f data).length := by
    rw [encoded_length]; exact h.inframe s hs (by rw [hv]; simp)
  exact rawOf_written s _ v hin (h.representable s hs v hv) (encoded_written h.hyp s hs v hv)

/-- Every bit that belongs to no supplied signal is cleared. -/
theorem signalsToBytes_clears_rest (f : Frame) (data : List (String × Int)) (h : SigDomain f data)
    (bytes : List Nat) (henc : f.signalsToBytes data = .ok bytes) (k : Nat)
    (hk : ∀ s ∈ f.sigs, dictGet data s.name ≠ none → ∀ i, i < s.size →
            sigAddr s.little s.start s.size i ≠ k) :
    payloadBit bytes k = false := by
  obtain rfl := Except.ok.inj ((signalsToBytes_ok h.hyp).symm.trans henc)
  exact encoded_clear h.hyp k (fun s hs v hv i hi => hk s hs (by rw [hv]; simp) i hi)

theorem decoded_domain (f : Frame) (p : List Nat) (hlen : p.length = f.size)
    (hnd : (f.sigs.map (·.name)).Nodup) (hin : ∀ s ∈ f.sigs, inFrame s f.size)
    (hdis : disjointSigs f.sigs) :
    SigDomain f (f.sigs.map fun s => (s.name, rawOf s p)) where
  nodup := hnd
  inframe := fun s hs _ => hin s hs
  disjoint := List.Pairwise.filter _ hdis
  representable := by
    intro s hs v hv
    obtain rfl := Option.some.inj ((dictGet_map_nodup f.sigs (fun s => rawOf s p) hnd hs).symm.trans hv)
    exact rangeOK_rawOf s p (by rw [hlen]; exact hin s hs)

/-- Re-encoding the values decoded from an arbitrary payload reproduces that payload on every bit
covered by a signal (`signalsToBytes` form). -/
theorem signalsToBytes_decode_on_covered (f : Frame) (p : List Nat) (hlen : p.length = f.size)
    (hnd : (f.sigs.map (·.name)).Nodup) (hin : ∀ s ∈ f.sigs, inFrame s f.size)
    (hdis : disjointSigs f.sigs)
    (bytes : List Nat) (henc : f.signalsToBytes (f.sigs.map fun s => (s.name, rawOf s p)) = .ok bytes) :
    ∀ s ∈ f.sigs, ∀ i, i < s.size →
      payloadBit bytes (sigAddr s.little s.start s.size i) = payloadBit p (sigAddr s.little s.start s.size i) := by
  intro s hs i hi
  have hd := decoded_domain f p hlen hnd hin hdis
  obtain rfl := Except.ok.inj ((signalsToBytes_ok hd.hyp).symm.trans henc)
  rw [encoded_written hd.hyp s hs _ (dictGet_map_nodup f.sigs (fun s => rawOf s p) hnd hs) i hi]
  exact encNat_rawOf_testBit s p (by rw [hlen]; exact hin s hs) i hi

/-- Encoding representable values never fails and yields exactly the frame's length, every byte < 256. -/
theorem encode_total (f : Frame) (data : List (String × Int)) (h : EncDomain f data) :
    ∃ bytes, f.encode data = .ok bytes ∧ bytes.length = f.size ∧ ∀ b ∈ bytes, b < 256 := by
  rw [encode_plain f data h.plain]
  exact signalsToBytes_total f data h.toSigDomain

/-- Each supplied signal decodes back to the supplied value. -/
theorem decode_encode (f : Frame) (data : List (String × Int)) (h : EncDomain f data)
    (bytes : List Nat) (henc : f.encode data = .ok bytes)
    (s : Sig) (hs : s ∈ f.sigs) (v : Int) (hv : dictGet data s.name = some v) :
    rawOf s bytes = v := by
  rw [encode_plain f data h.plain] at henc
  exact decode_signalsToBytes f data h.toSigDomain bytes henc s hs v hv

/-- Every bit that belongs to no supplied signal is cleared. -/
theorem encode_clears_rest (f : Frame) (data : List (String × Int)) (h : EncDomain f data)
    (bytes : List Nat) (henc : f.encode data = .ok bytes) (k : Nat)
    (hk : ∀ s ∈ f.sigs, dictGet data s.name ≠ none → ∀ i, i < s.size →
            sigAddr s.little s.start s.size i ≠ k) :
    payloadBit bytes k = false := by
  rw [encode_plain f data h.plain] at henc
  exact signalsToBytes_clears_rest f data h.toSigDomain bytes henc k hk

/-- Re-encoding the values decoded from an arbitrary payload reproduces that payload on every bit
covered by a signal. -/
theorem encode_decode_on_covered (f : Frame) (p : List Nat) (hlen : p.length = f.size)
    (hplain : f.complexMux = false ∧ f.isMultiplexed = false ∧ f.isContainer = false)
    (hnd : (f.sigs.map (·.name)).Nodup) (hin : ∀ s ∈ f.sigs, inFrame s f.size)
    (hdis : disjointSigs f.sigs)
    (bytes : List Nat) (henc : f.encode (f.sigs.map fun s => (s.name, rawOf s p)) = .ok bytes) :
    ∀ s ∈ f.sigs, ∀ i, i < s.size →
      payloadBit bytes (sigAddr s.little s.start s.size i) = payloadBit p (sigAddr s.little s.start s.size i) := by
  rw [encode_plain f _ hplain] at henc
  exact signalsToBytes_decode_on_covered f p hlen hnd hin hdis bytes henc

/-- the decoded values are always representable, so the previous theorem is not vacuous:
its `henc` hypothesis is satisfiable for every payload -/
theorem decoded_values_encode (f : Frame) (p : List Nat) (hlen : p.length = f.size)
    (hplain : f.complexMux = false ∧ f.isMultiplexed = false ∧ f.isContainer = false)
    (hnd : (f.sigs.map (·.name)).Nodup) (hin : ∀ s ∈ f.sigs, inFrame s f.size)
    (hdis : disjointSigs f.sigs) :
    ∃ bytes, f.encode (f.sigs.map fun s => (s.name, rawOf s p)) = .ok bytes := by
  rw [encode_plain f _ hplain]
  exact (signalsToBytes_total f _ (decoded_domain f p hlen hnd hin hdis)).imp fun _ h => h.1

/-! non-vacuity -/
def exFrame : Frame :=
  { size := 2, sigs := [{ name := "a", start := 8, size := 8, little := false, signed := true },
                        { name := "b", start := 0, size := 3, little := true }] }
deriving instance DecidableEq for Except
example : exFrame.encode [("a", -2), ("b", 5)] = .ok [0x05, 0xFE] := by decide
example : rawOf { name := "a", start := 8, size := 8, little := false, signed := true } [0x05, 0xFE] = -2 := by
  decide

end CanVerif.C02
